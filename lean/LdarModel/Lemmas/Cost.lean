import LdarModel.Model.Cost
import LdarModel.Lemmas.Crew
import LdarModel.Props.C02
import LdarModel.Props.C04
/-
Helper lemmas for the cost model (C10).  Core Lean only; the facts about one emission's run come
from Props/C02 and Props/C04.
-/
namespace LdarModel.Cost
open LdarModel.Crew

theorem totalDaily_eq (first : Bool) (ms : List MethodDay) :
    totalDaily first ms = (ms.map (fun m => m.deploy + if first then m.upfront else 0)).sum := by
  suffices h : ∀ acc, ms.foldl (fun acc m => (if first then acc + m.upfront else acc) + m.deploy) acc
      = acc + (ms.map (fun m => m.deploy + if first then m.upfront else 0)).sum by
    simpa [totalDaily] using h 0
  induction ms with
  | nil => simp
  | cons m ms ih =>
    intro acc
    simp only [List.foldl_cons, List.map_cons, List.sum_cons, ih]
    cases first <;> simp <;> omega

theorem sum_map_add (f g : MethodDay → Int) (ms : List MethodDay) :
    (ms.map (fun m => f m + g m)).sum = (ms.map f).sum + (ms.map g).sum := by
  induction ms with
  | nil => simp
  | cons m ms ih => simp only [List.map_cons, List.sum_cons, ih]; omega

/-- what the day's records say should have been charged by a per-site method -/
def chargedByRecords (p : MethodP) (out : List OutRec) : Int :=
  (out.map (fun o => chargeIfComplete p o.req o.rep)).sum

theorem chargedByRecords_perSite (p : MethodP) (hp : p.perSite = true) (out : List OutRec) :
    chargedByRecords p out
      = ((out.filter (fun o => o.rep.complete)).map (fun o => siteCharge p o.req)).sum := by
  unfold chargedByRecords
  induction out with
  | nil => rfl
  | cons o os ih =>
    simp only [List.map_cons, List.sum_cons, List.filter_cons, ih]
    cases hc : o.rep.complete <;> simp [chargeIfComplete, hp, hc]

theorem serve_cost (p : MethodP) (st : DaySt) (r : Req)
    (h : st.stats.cost = chargedByRecords p st.out) :
    (serve p st r).stats.cost = chargedByRecords p (serve p st r).out := by
  unfold serve
  cases hp : pick st.crews with
  | none => simp [chargedByRecords, h] at *
  | some k =>
    simp only [chargedByRecords, List.map_append, List.sum_append, List.map_cons, List.map_nil,
      List.sum_cons, List.sum_nil, Int.add_zero] at *
    -- neither the visit nor the last-site update of the statistics touches the cost
    split <;> split <;> rw [h]

theorem serveAll_cost (p : MethodP) (budget : Int) (n : Nat) (reqs : List Req) :
    (serveAll p { crews := initCrews budget n } reqs).stats.cost
      = chargedByRecords p (serveAll p { crews := initCrews budget n } reqs).out :=
  serveAll_induct p (fun st => st.stats.cost = chargedByRecords p st.out) (fun _ => True)
    (fun st r _ h => serve_cost p st r h) reqs _ (fun _ _ => trivial) (by simp [chargedByRecords])

theorem serveAll_crews_out (p : MethodP) (budget : Int) (n : Nat) (reqs : List Req) :
    (deployDay p budget n reqs).crews = (serveAll p { crews := initCrews budget n } reqs).crews ∧
    (deployDay p budget n reqs).out = (serveAll p { crews := initCrews budget n } reqs).out := by
  unfold deployDay; exact ⟨finalize_crews _ _ _, finalize_out _ _ _⟩

open LdarModel.Emission

theorem activate_tagged (p : Params) (d : Int) (s : State) : (activate p d s).tagged = s.tagged := by
  unfold activate; split <;> rfl

theorem activate_repaired (p : Params) (d : Int) (s : State) :
    (activate p d s).status = .repaired ↔ s.status = .repaired := by
  unfold activate; split <;> simp_all

theorem day_repaired_fixed (p : Params) (d : Int) (evs : List TagEv) (s : State)
    (h : s.status = .repaired) : day p d evs s = s :=
  day_ended p d evs s (Or.inl h)

/-- what `update` books, read off the status change it makes: a program repair books the repair
cost, a natural repair the natural repair cost, nothing else books anything.  The guards of
`bookOnUpdate` are those of `update`, arm by arm. -/
theorem bookOnUpdate_spec (p : Params) (hr : p.repairable = true) (cost : Int) (s : State)
    (hnat : s.status = .active → s.by_ ≠ .natural) :
    bookOnUpdate p cost s =
      if s.status ≠ .repaired ∧ (update p s).status = .repaired then
        (if (update p s).by_ ≠ .natural then (cost, 0) else (0, cost))
      else (0, 0) := by
  by_cases hs : s.status = .active
  · have hn := hnat hs
    cases ht : s.tagged
    · by_cases h2 : s.activeDays + 1 + b4 p ≥ p.nrd <;>
        simp [bookOnUpdate, update, hs, hr, ht, h2, toggle_frame]
    · by_cases h1 : s.dst + 1 ≥ p.repairDelay + s.trd
      · simp [bookOnUpdate, update, hs, hr, ht, h1, hn]
      · by_cases h2 : s.activeDays + 1 + b4 p ≥ p.nrd <;>
          simp [bookOnUpdate, update, hs, hr, ht, h1, h2, toggle_frame]
  · simp [bookOnUpdate, update, hs]

theorem bookDay_spec (p : Params) (hr : p.repairable = true) (cost : Int) (ev : Nat → List TagEv) (n : Nat) :
    bookDay p cost ev n =
      if (run p ev n).status ≠ .repaired ∧ (run p ev (n + 1)).status = .repaired then
        (if (run p ev (n + 1)).by_ ≠ .natural then (cost, 0) else (0, cost))
      else (0, 0) := by
  -- the state `update` sees on day `n`; a repaired emission stays repaired through activation and tagging
  have hm := tags_mid p n (ev n) _ (activate_mid p n _ (run_inv p hr ev n))
  have hst : ((ev n).foldl (fun s e => tag p n e s) (activate p n (run p ev n))).status ≠ .repaired
      ↔ (run p ev n).status ≠ .repaired := by
    rw [(tags_frame p n (ev n) _).1]; exact not_congr (activate_repaired p n _)
  have h := bookOnUpdate_spec p hr cost _ fun h => (hm.2.1 h).2.2.2.1
  simp only [hst] at h
  exact h

theorem bookOnUpdate_untagged (p : Params) (cost : Int) (s : State)
    (h : s.status = .active → s.tagged = false) : (bookOnUpdate p cost s).1 = 0 := by
  unfold bookOnUpdate; grind

theorem bookOnUpdate_tproj (p : Params) (c : Int) (s s' : State)
    (h : tproj s = tproj s') : bookOnUpdate p c s = bookOnUpdate p c s' := by
  rw [tproj_eq_iff] at h
  obtain ⟨h1, h2, h3, h4, h5, _⟩ := h
  unfold bookOnUpdate
  simp only [h1, h2, h3, h4, h5]

theorem bookOnUpdate_nonrep (p : Params) (c : Int) (s : State) (h : p.repairable = false) :
    bookOnUpdate p c s = (0, 0) := by
  unfold bookOnUpdate
  simp [h]

theorem noEvents_untagged (p : Params) (n : Nat) :
    (run p noEvents n).status ≠ .repaired → (run p noEvents n).tagged = false :=
  (baseline_noTag p n).1

end LdarModel.Cost
