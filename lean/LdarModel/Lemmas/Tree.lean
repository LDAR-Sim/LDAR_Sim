import LdarModel.Model.Tree
/-
Lemmas about parameter trees (`Model/Tree.lean`).  `retain_update` is characterised path by path:
on or below a leaf path of the update (`touched`) the result shows the update, elsewhere the
defaults (`ru_touched`, `ru_untouched`); two trees that show the same `shape` at every path are equal
(`ext_j`), which gives the order results.
The tree types are one mutual inductive, so list inductions are written as structural recursions.
Inversion lemmas (`*_inv`) follow the branches of the definition they invert in its own order:
`split at h` opens a `match`, `cases h` closes a branch that ends in an error, `next` names what the
surviving branch binds.
-/
namespace LdarModel.Tree

theorem KV.lookup_setKey_same (k : String) (v : J) :
    ∀ kvs : KV, (kvs.setKey k v).lookup k = some v
  | .nil => by simp [KV.setKey, KV.lookup]
  | .cons k' v' t => by
    simp only [KV.setKey]
    split <;> simp [KV.lookup, *, KV.lookup_setKey_same k v t]

theorem KV.lookup_setKey_ne {k k' : String} (v : J) (h : k' ≠ k) :
    ∀ kvs : KV, (kvs.setKey k v).lookup k' = kvs.lookup k'
  | .nil => by simp [KV.setKey, KV.lookup, Ne.symm h]
  | .cons k'' v' t => by
    simp only [KV.setKey]
    split
    · subst_vars; simp [KV.lookup, Ne.symm h]
    · simp only [KV.lookup, KV.lookup_setKey_ne v h t]

theorem KV.has_iff_mem_keys (k : String) : ∀ kvs : KV, kvs.has k = true ↔ k ∈ kvs.keys
  | .nil => by simp [KV.has, KV.lookup, KV.keys]
  | .cons k' v t => by
    have ih := KV.has_iff_mem_keys k t
    by_cases h : k' = k
    · simp [KV.has, KV.lookup, KV.keys, h]
    · simp only [KV.has, KV.lookup, KV.keys, h, if_false, List.mem_cons] at ih ⊢
      constructor
      · intro hh; exact Or.inr (ih.mp hh)
      · intro hh
        rcases hh with hh | hh
        · exact absurd hh.symm h
        · exact ih.mpr hh

theorem KV.lookup_none_iff (k : String) (kvs : KV) : kvs.lookup k = none ↔ k ∉ kvs.keys := by
  rw [← KV.has_iff_mem_keys]
  simp [KV.has]

theorem KV.lookup_of_mem_keys (k : String) (kvs : KV) (h : k ∈ kvs.keys) :
    ∃ v, kvs.lookup k = some v := by
  cases hl : kvs.lookup k with
  | some v => exact ⟨v, rfl⟩
  | none => exact absurd h ((KV.lookup_none_iff k kvs).mp hl)

theorem KV.mem_keys_of_lookup {k : String} {kvs : KV} {v : J} (h : kvs.lookup k = some v) :
    k ∈ kvs.keys := by
  by_cases hm : k ∈ kvs.keys
  · exact hm
  · rw [(KV.lookup_none_iff k kvs).mpr hm] at h
    cases h

theorem KV.keys_setKey_of_mem (k : String) (v : J) :
    ∀ kvs : KV, k ∈ kvs.keys → (kvs.setKey k v).keys = kvs.keys
  | .nil => by simp [KV.keys]
  | .cons k' v' t => by
    intro h
    simp only [KV.setKey]
    split
    · rfl
    · simp only [KV.keys, List.mem_cons] at h ⊢
      rw [KV.keys_setKey_of_mem k v t (h.resolve_left (fun e => ‹¬ k' = k› e.symm))]

theorem KV.keys_setKey_of_not_mem (k : String) (v : J) :
    ∀ kvs : KV, k ∉ kvs.keys → (kvs.setKey k v).keys = kvs.keys ++ [k]
  | .nil => by simp [KV.setKey, KV.keys]
  | .cons k' v' t => by
    intro h
    simp only [KV.keys, List.mem_cons, not_or] at h
    have h2 : ¬ k' = k := fun e => h.1 e.symm
    simp [KV.setKey, KV.keys, h2, KV.keys_setKey_of_not_mem k v t h.2]

theorem KV.forall_lookup {S : KV → Prop} {Q : String → J → Prop}
    (step : ∀ k0 v0 t, S (.cons k0 v0 t) → Q k0 v0 ∧ S t) :
    ∀ (kvs : KV) (k : String) (v : J), S kvs → kvs.lookup k = some v → Q k v
  | .nil, _, _, _, hl => by simp [KV.lookup] at hl
  | .cons k0 v0 t, k, v, hs, hl => by
    obtain ⟨hq, ht⟩ := step k0 v0 t hs
    by_cases hk : k0 = k
    · simp only [KV.lookup, hk, if_true, Option.some.injEq] at hl
      subst hk hl
      exact hq
    · simp only [KV.lookup, hk, if_false] at hl
      exact KV.forall_lookup step t k v ht hl

theorem get?_nil (j : J) : get? [] j = some j := by
  cases j <;> rfl

theorem get?_cons_obj (k : String) (p : Path) (kvs : KV) :
    get? (k :: p) (.obj kvs) = match kvs.lookup k with | some v => get? p v | none => none := rfl

theorem get?_cons_leaf (k : String) (p : Path) (j : J) (h : j.isObj = false) :
    get? (k :: p) j = none := by
  cases j <;> simp_all [get?, J.isObj]

theorem get?_cons_some {k : String} {p : Path} {j v : J} (h : get? (k :: p) j = some v) :
    ∃ kvs v0, j = .obj kvs ∧ kvs.lookup k = some v0 ∧ get? p v0 = some v := by
  cases j with
  | obj kvs =>
    rw [get?_cons_obj] at h
    split at h
    · exact ⟨_, _, rfl, ‹_›, h⟩
    · cases h
  | _ => simp [get?] at h

theorem J.isObj_of_ne {x : J} (h : ∀ a, x = .obj a → False) : x.isObj = false := by
  cases x <;> first | rfl | exact (h _ rfl).elim

theorem ru_nil (d : J) : ruKvs d .nil = .ok d := by
  simp [ruKvs]

theorem ru_cons_inv {d : J} {k : String} {v : J} {rest : KV} {r : J}
    (h : ruKvs d (.cons k v rest) = .ok r) :
    ∃ dk x, d = .obj dk ∧ ruKvs (.obj (dk.setKey k x)) rest = .ok r ∧
      ((v.isObj = false ∧ x = v) ∨
       (∃ vk dv, v = .obj vk ∧ dk.lookup k = some dv ∧ ruKvs dv vk = .ok x)) := by
  unfold ruKvs at h
  split at h
  next vk =>
    split at h
    case h_2 => cases h
    next dk =>
    split at h
    case h_2 => cases h
    next dv hdv =>
    split at h
    case h_2 => cases h
    next x hx => exact ⟨dk, x, rfl, h, Or.inr ⟨vk, dv, rfl, hdv, hx⟩⟩
  next hleaf =>
    split at h
    case h_2 => cases h
    next dk => exact ⟨dk, _, rfl, h, Or.inl ⟨J.isObj_of_ne hleaf, rfl⟩⟩

theorem ru_obj : ∀ (ukvs dk : KV) (r : J), ruKvs (.obj dk) ukvs = .ok r → ∃ rk, r = .obj rk
  | .nil, dk, r, h => by
    simp only [ruKvs] at h
    exact ⟨dk, by cases h; rfl⟩
  | .cons _ _ rest, _, r, h => by
    obtain ⟨dk', x, _, hrest, _⟩ := ru_cons_inv h
    exact ru_obj rest _ r hrest

theorem ru_leaf {d : J} {ukvs : KV} {r : J} (hd : d.isObj = false)
    (h : ruKvs d ukvs = .ok r) : r = d ∧ ukvs = .nil := by
  cases ukvs with
  | nil => simp only [ruKvs] at h; cases h; exact ⟨rfl, rfl⟩
  | cons k v rest =>
    obtain ⟨dk, x, hdk, _, _⟩ := ru_cons_inv h
    subst hdk
    simp [J.isObj] at hd

theorem KV.wf_cons {k : String} {v : J} {t : KV} (h : (KV.cons k v t).wf = true) :
    k ∉ t.keys ∧ v.wf = true ∧ t.wf = true := by
  simp only [KV.wf, Bool.and_eq_true, Bool.not_eq_true'] at h
  refine ⟨?_, h.1.2, h.2⟩
  intro hm
  have := (KV.has_iff_mem_keys k t).mpr hm
  simp [this] at h

theorem ru_lookup_other : ∀ (ukvs dk rk : KV) (k : String),
    ruKvs (.obj dk) ukvs = .ok (.obj rk) → k ∉ ukvs.keys → rk.lookup k = dk.lookup k
  | .nil, dk, rk, k, h, _ => by
    simp only [ruKvs] at h
    cases h; rfl
  | .cons k0 v0 rest, dk, rk, k, h, hk => by
    obtain ⟨dk', x, hd, hrest, _⟩ := ru_cons_inv h
    cases hd
    simp only [KV.keys, List.mem_cons, not_or] at hk
    have ih := ru_lookup_other rest _ rk k hrest hk.2
    rw [ih, KV.lookup_setKey_ne x hk.1]

theorem ru_lookup_hit : ∀ (ukvs : KV) (d r : J) (k : String) (v0 : J),
    ukvs.wf = true → ruKvs d ukvs = .ok r → ukvs.lookup k = some v0 →
    ∃ dk rk, d = .obj dk ∧ r = .obj rk ∧
      ((v0.isObj = false ∧ rk.lookup k = some v0) ∨
       (∃ vk dv r0, v0 = .obj vk ∧ dk.lookup k = some dv ∧ ruKvs dv vk = .ok r0 ∧
          rk.lookup k = some r0))
  | .nil, _, _, _, _, _, _, hl => by simp [KV.lookup] at hl
  | .cons k0 v' rest, d, r, k, v0, hwf, h, hl => by
    obtain ⟨hk0, _, hwfr⟩ := KV.wf_cons hwf
    obtain ⟨dk, x, hd, hrest, halt⟩ := ru_cons_inv h
    subst hd
    obtain ⟨rk, hr⟩ := ru_obj rest _ r hrest
    subst hr
    by_cases hk : k0 = k
    · subst hk
      simp only [KV.lookup, if_true] at hl
      cases hl
      have hlk := ru_lookup_other rest _ rk k0 hrest hk0
      rw [KV.lookup_setKey_same] at hlk
      refine ⟨dk, rk, rfl, rfl, ?_⟩
      rcases halt with ⟨hleaf, hx⟩ | ⟨vk, dv, hv, hdv, hx⟩
      · subst hx; exact Or.inl ⟨hleaf, hlk⟩
      · exact Or.inr ⟨vk, dv, x, hv, hdv, hx, hlk⟩
    · simp only [KV.lookup, hk, if_false] at hl
      obtain ⟨dk2, rk2, hd2, hr2, halt2⟩ := ru_lookup_hit rest _ _ k v0 hwfr hrest hl
      cases hd2; cases hr2
      refine ⟨dk, rk, rfl, rfl, ?_⟩
      rcases halt2 with hA | ⟨vk, dv, r0, hv, hdv, hx, hlk⟩
      · exact Or.inl hA
      · rw [KV.lookup_setKey_ne x (Ne.symm hk)] at hdv
        exact Or.inr ⟨vk, dv, r0, hv, hdv, hx, hlk⟩


/-- the update holds a non-dictionary value at some prefix of the path (the path itself included):
the path lies on or below a leaf path of the update -/
def touched : J → Path → Bool
  | .obj kvs, k :: p => match kvs.lookup k with
      | some v => touched v p
      | none => false
  | .obj _, [] => false
  | _, _ => true

theorem touched_leaf {v : J} (h : v.isObj = false) (p : Path) : touched v p = true := by
  cases v <;> cases p <;> simp_all [touched, J.isObj]

theorem touched_cons {kvs : KV} {k : String} {p : Path} (h : touched (.obj kvs) (k :: p) = true) :
    ∃ v0, kvs.lookup k = some v0 ∧ touched v0 p = true := by
  simp only [touched] at h
  split at h
  · exact ⟨_, ‹_›, h⟩
  · cases h

theorem KV.wf_lookup : ∀ (kvs : KV) (k : String) (v : J),
    kvs.wf = true → kvs.lookup k = some v → v.wf = true :=
  KV.forall_lookup (S := fun kvs => kvs.wf = true) fun _ _ _ h => (KV.wf_cons h).2

theorem ru_keys : ∀ (ukvs dk rk : KV), ruKvs (.obj dk) ukvs = .ok (.obj rk) →
    (∀ k, k ∈ ukvs.keys → k ∈ dk.keys) → rk.keys = dk.keys
  | .nil, dk, rk, h, _ => by
    simp only [ruKvs] at h
    cases h; rfl
  | .cons k0 v0 rest, dk, rk, h, hk => by
    obtain ⟨dk', x, hd, hrest, _⟩ := ru_cons_inv h
    cases hd
    have hk0 : k0 ∈ dk.keys := hk k0 (by simp [KV.keys])
    have hkeys := KV.keys_setKey_of_mem k0 x dk hk0
    have ih := ru_keys rest _ rk hrest (by
      intro k hm
      rw [hkeys]
      exact hk k (by simp [KV.keys, hm]))
    rw [ih, hkeys]

theorem ru_touched : ∀ (p : Path) (ukvs : KV) (d r : J),
    ukvs.wf = true → ruKvs d ukvs = .ok r → touched (.obj ukvs) p = true →
    get? p r = get? p (.obj ukvs)
  | [], _, _, _, _, _, ht => by simp [touched] at ht
  | k :: p', ukvs, d, r, hwf, h, ht => by
    obtain ⟨v0, hl, ht⟩ := touched_cons ht
    obtain ⟨dk, rk, rfl, rfl, halt⟩ := ru_lookup_hit ukvs d r k v0 hwf h hl
    rcases halt with ⟨_, hlk⟩ | ⟨vk, dv, r0, rfl, _, hx, hlk⟩
    · simp [get?, hlk, hl]
    · have hwfv : vk.wf = true := KV.wf_lookup ukvs k _ hwf hl
      simp [get?, hlk, hl, ru_touched p' vk dv r0 hwfv hx ht]

theorem ru_untouched : ∀ (p : Path) (ukvs : KV) (d r : J),
    ukvs.wf = true → ruKvs d ukvs = .ok r → touched (.obj ukvs) p = false →
    (get? p d = none → get? p r = none) ∧
    (∀ v, get? p d = some v → v.isObj = false → get? p r = some v) ∧
    (∀ dk', get? p d = some (.obj dk') → ∃ rk', get? p r = some (.obj rk') ∧
      ((∀ uk', get? p (.obj ukvs) = some (.obj uk') → ∀ k, k ∈ uk'.keys → k ∈ dk'.keys) →
        rk'.keys = dk'.keys))
  | [], ukvs, d, r, _, h, _ => by
    refine ⟨by simp [get?_nil], ?_, ?_⟩
    · intro v hv hleaf
      rw [get?_nil] at hv
      cases hv
      rw [get?_nil, (ru_leaf hleaf h).1]
    · intro dk' hd
      rw [get?_nil] at hd
      cases hd
      obtain ⟨rk, hr⟩ := ru_obj ukvs dk' r h
      subst hr
      refine ⟨rk, get?_nil _, ?_⟩
      intro hk
      exact ru_keys ukvs dk' rk h (hk ukvs (get?_nil _))
  | k :: p', ukvs, d, r, hwf, h, ht => by
    by_cases hobj : d.isObj = false
    · -- nothing below a non-dictionary, and the loop leaves it as it is
      obtain ⟨rfl, _⟩ := ru_leaf hobj h
      simp only [get?_cons_leaf k p' r hobj]
      exact ⟨id, fun v hv => (nomatch hv), fun dk' hv => (nomatch hv)⟩
    cases d with
    | obj dk =>
      obtain ⟨rk, hr⟩ := ru_obj ukvs dk r h
      subst hr
      simp only [touched] at ht
      cases hl : ukvs.lookup k with
      | none =>
        simp only [get?, ru_lookup_other ukvs dk rk k h ((KV.lookup_none_iff k ukvs).mp hl), hl]
        exact ⟨id, fun v hv _ => hv, fun dk' hv => ⟨dk', hv, fun _ => rfl⟩⟩
      | some v0 =>
        simp only [hl] at ht
        obtain ⟨dk2, rk2, hd2, hr2, halt⟩ := ru_lookup_hit ukvs _ _ k v0 hwf h hl
        cases hd2; cases hr2
        rcases halt with ⟨hleaf, _⟩ | ⟨vk, dv, r0, hv, hdv, hx, hlk⟩
        · rw [touched_leaf hleaf] at ht; cases ht
        · subst hv
          have hwfv : vk.wf = true := KV.wf_lookup ukvs k _ hwf hl
          simp only [get?, hdv, hlk, hl]
          exact ru_untouched p' vk dv r0 hwfv hx ht
    | _ => exact absurd rfl hobj


/-- what a path shows of a tree: nothing, a non-dictionary value, or a dictionary's key list -/
inductive Shape
  | absent
  | leaf (v : J)
  | node (ks : List String)

def shape : Option J → Shape
  | none => .absent
  | some (.obj kvs) => .node kvs.keys
  | some v => .leaf v

theorem shape_leaf {v : J} (h : v.isObj = false) : shape (some v) = .leaf v := by
  cases v <;> simp_all [shape, J.isObj]

def NodupAt (a : J) : Prop := ∀ p ks, get? p a = some (.obj ks) → ks.keys.Nodup

theorem shape_node_inv {o : Option J} {l : List String} (h : shape o = .node l) :
    ∃ ks, o = some (.obj ks) ∧ ks.keys = l := by
  cases o with
  | none => simp [shape] at h
  | some v =>
    cases v with
    | obj ks =>
      simp only [shape, Shape.node.injEq] at h
      exact ⟨ks, rfl, h⟩
    | _ => simp [shape] at h

theorem ext_leaf {a b : J} (ha : a.isObj = false) (h : shape (some a) = shape (some b)) :
    a = b := by
  rw [shape_leaf ha] at h
  cases b
  all_goals simp only [shape] at h
  all_goals cases h
  all_goals rfl

mutual
theorem ext_j : ∀ (a b : J), NodupAt a → (∀ p, shape (get? p a) = shape (get? p b)) → a = b
  | a, b, hn, h => by
    have h0 := h []
    rw [get?_nil, get?_nil] at h0
    cases a with
    | obj ak =>
      obtain ⟨bk, hb, hkeys⟩ := shape_node_inv h0.symm
      cases hb
      rw [ext_kvs ak bk hkeys.symm (hn [] ak (get?_nil _)) (fun k p _ => h (k :: p))
        (fun k p ks hk => hn (k :: p) ks hk)]
    | _ => exact ext_leaf rfl h0
theorem ext_kvs : ∀ (ak bk : KV), ak.keys = bk.keys → ak.keys.Nodup →
    (∀ k p, k ∈ ak.keys → shape (get? (k :: p) (.obj ak)) = shape (get? (k :: p) (.obj bk))) →
    (∀ k p ks, get? (k :: p) (.obj ak) = some (.obj ks) → ks.keys.Nodup) → ak = bk
  | .nil, bk, hk, _, _, _ => by
    cases bk with
    | nil => rfl
    | cons _ _ _ => simp [KV.keys] at hk
  | .cons k va ta, bk, hk, hnd, h, hn => by
    cases bk with
    | nil => simp [KV.keys] at hk
    | cons k' vb tb =>
      simp only [KV.keys, List.cons.injEq] at hk
      obtain ⟨hkk, htk⟩ := hk
      subst hkk
      simp only [KV.keys, List.nodup_cons] at hnd
      have hv : va = vb := by
        apply ext_j va vb
        · intro p ks hg
          exact hn k p ks (by simpa [get?, KV.lookup] using hg)
        · intro p
          have := h k p (by simp [KV.keys])
          simpa [get?, KV.lookup] using this
      have ht : ta = tb := by
        apply ext_kvs ta tb htk hnd.2
        · intro k2 p hm
          have hne : ¬ k = k2 := fun e => hnd.1 (e ▸ hm)
          have := h k2 p (by simp [KV.keys, hm])
          simpa [get?, KV.lookup, hne] using this
        · intro k2 p ks hg
          obtain ⟨_, _, hj, hl, _⟩ := get?_cons_some hg
          cases hj
          have hne : ¬ k = k2 := fun e => hnd.1 (e ▸ KV.mem_keys_of_lookup hl)
          exact hn k2 p ks (by simpa [get?, KV.lookup, hne] using hg)
      rw [hv, ht]
end


theorem get?_append : ∀ (q s : Path) (j : J), get? (q ++ s) j = (get? q j).bind (get? s)
  | [], s, j => by simp [get?_nil]
  | k :: q, s, j => by
    cases j with
    | obj kvs =>
      simp only [List.cons_append, get?]
      cases kvs.lookup k with
      | none => simp
      | some v => simp [get?_append q s v]
    | _ => simp [get?]

theorem get?_of_leaf {dv : J} (h : dv.isObj = false) : ∀ (s : Path) (x : J),
    get? s dv = some x → s = [] ∧ x = dv
  | [], x, hx => by
    rw [get?_nil] at hx
    cases hx; exact ⟨rfl, rfl⟩
  | k :: s, x, hx => by
    rw [get?_cons_leaf k s dv h] at hx
    cases hx

theorem touched_witness : ∀ (p : Path) (u : J), touched u p = true →
    ∃ q s v, p = q ++ s ∧ get? q u = some v ∧ v.isObj = false
  | p, .null, _ | p, .bool _, _ | p, .int _, _ | p, .float _ _, _ | p, .str _, _ | p, .list _, _ =>
    ⟨[], p, _, rfl, rfl, rfl⟩
  | [], .obj _, h => by simp [touched] at h
  | k :: p', .obj kvs, h => by
    obtain ⟨v0, hl, h⟩ := touched_cons h
    obtain ⟨q, s, v, hp, hg, hv⟩ := touched_witness p' v0 h
    exact ⟨k :: q, s, v, by simp [hp], by simp [get?, hl, hg], hv⟩

theorem wf_get : ∀ (p : Path) (j v : J), j.wf = true → get? p j = some v → v.wf = true
  | [], j, v, hw, hg => by
    rw [get?_nil] at hg
    cases hg; exact hw
  | k :: p, j, v, hw, hg => by
    obtain ⟨kvs, v0, rfl, hl, hg⟩ := get?_cons_some hg
    exact wf_get p v0 v (KV.wf_lookup kvs k v0 hw hl) hg

theorem KV.wf_nodup : ∀ kvs : KV, kvs.wf = true → kvs.keys.Nodup
  | .nil, _ => by simp [KV.keys]
  | .cons k v t, h => by
    obtain ⟨hk, _, ht⟩ := KV.wf_cons h
    simp only [KV.keys, List.nodup_cons]
    exact ⟨hk, KV.wf_nodup t ht⟩

theorem wf_nodupAt {a : J} (h : a.wf = true) : NodupAt a := by
  intro p ks hg
  have := wf_get p a _ h hg
  exact KV.wf_nodup ks this

/-- every key the update uses, at every depth, is a key of the defaults at the same place -/
def Known (d u : J) : Prop :=
  ∀ p uk k, get? p u = some (.obj uk) → k ∈ uk.keys →
    ∃ dk, get? p d = some (.obj dk) ∧ k ∈ dk.keys

/-- the update's non-dictionary values sit on non-dictionary values of the defaults
(an update never replaces a whole section) -/
def LeafOnLeaf (d u : J) : Prop :=
  ∀ p v, get? p u = some v → v.isObj = false → ∃ dv, get? p d = some dv ∧ dv.isObj = false

/-- no leaf path of one update is a prefix of (or equal to) a leaf path of the other -/
def DisjointLeaves (u1 u2 : J) : Prop := ∀ p, ¬ (touched u1 p = true ∧ touched u2 p = true)

/-- wherever both updates reach (a path on or below a leaf path of each) they say the same: the two
files may share leaves such as `parameter_level` / `version` as long as the values are equal -/
def AgreeOnCommon (u1 u2 : J) : Prop :=
  ∀ p, touched u1 p = true → touched u2 p = true → get? p u1 = get? p u2

theorem agree_of_disjoint {u1 u2 : J} (h : DisjointLeaves u1 u2) : AgreeOnCommon u1 u2 :=
  fun p h1 h2 => absurd ⟨h1, h2⟩ (h p)

theorem Known.keys_at {d u : J} (hk : Known d u) {p : Path} {dk : KV}
    (hg : get? p d = some (.obj dk)) :
    ∀ uk, get? p u = some (.obj uk) → ∀ k, k ∈ uk.keys → k ∈ dk.keys := by
  intro uk hu k hm
  obtain ⟨dk2, hd2, hmem⟩ := hk p uk k hu hm
  rw [hg] at hd2
  cases hd2
  exact hmem

theorem ru_shape {ukvs : KV} {d r : J} (hwf : ukvs.wf = true) (h : ruKvs d ukvs = .ok r)
    (hk : Known d (.obj ukvs)) (p : Path) :
    (touched (.obj ukvs) p = true → shape (get? p r) = shape (get? p (.obj ukvs))) ∧
    (touched (.obj ukvs) p = false → shape (get? p r) = shape (get? p d)) := by
  constructor
  · intro ht
    rw [ru_touched p ukvs d r hwf h ht]
  · intro ht
    obtain ⟨h1, h2, h3⟩ := ru_untouched p ukvs d r hwf h ht
    cases hg : get? p d with
    | none => rw [h1 hg]
    | some v =>
      cases v with
      | obj dk' =>
        obtain ⟨rk', hr, hkeys⟩ := h3 dk' hg
        rw [hr]
        simp only [shape, Shape.node.injEq]
        exact hkeys (hk.keys_at hg)
      | _ => rw [h2 _ hg rfl]

theorem not_touched_of_node {d u : J} (hl : LeafOnLeaf d u) {p : Path} {dk : KV}
    (hd : get? p d = some (.obj dk)) : touched u p = false := by
  cases ht : touched u p with
  | false => rfl
  | true =>
    obtain ⟨q, s, v, hp, hg, hv⟩ := touched_witness p u ht
    obtain ⟨dv, hdv, hleaf⟩ := hl q v hg hv
    rw [hp, get?_append, hdv] at hd
    simp only [Option.bind_some] at hd
    obtain ⟨_, hx⟩ := get?_of_leaf hleaf s _ hd
    rw [← hx] at hleaf
    simp [J.isObj] at hleaf

theorem known_after {ukvs : KV} {d r u2 : J} (hwf : ukvs.wf = true) (h : ruKvs d ukvs = .ok r)
    (hk1 : Known d (.obj ukvs)) (hl1 : LeafOnLeaf d (.obj ukvs)) (hk2 : Known d u2) :
    Known r u2 := by
  intro p uk k hu hm
  obtain ⟨dk, hd, hmem⟩ := hk2 p uk k hu hm
  have ht := not_touched_of_node hl1 hd
  obtain ⟨_, _, h3⟩ := ru_untouched p ukvs d r hwf h ht
  obtain ⟨rk', hr, hkeys⟩ := h3 dk hd
  exact ⟨rk', hr, hkeys (hk1.keys_at hd) ▸ hmem⟩


theorem ru_comm {u1 u2 : KV} {d r1 r12 r2 r21 : J}
    (hw1 : u1.wf = true) (hw2 : u2.wf = true) (hnd : NodupAt d)
    (hk1 : Known d (.obj u1)) (hk2 : Known d (.obj u2))
    (hl1 : LeafOnLeaf d (.obj u1)) (hl2 : LeafOnLeaf d (.obj u2))
    (hdis : AgreeOnCommon (.obj u1) (.obj u2))
    (e1 : ruKvs d u1 = .ok r1) (e12 : ruKvs r1 u2 = .ok r12)
    (e2 : ruKvs d u2 = .ok r2) (e21 : ruKvs r2 u1 = .ok r21) : r12 = r21 := by
  have K12 : Known r1 (.obj u2) := known_after hw1 e1 hk1 hl1 hk2
  have K21 : Known r2 (.obj u1) := known_after hw2 e2 hk2 hl2 hk1
  have key : ∀ p, ∃ X, (X = d ∨ X = .obj u1 ∨ X = .obj u2) ∧
      shape (get? p r12) = shape (get? p X) ∧ shape (get? p r21) = shape (get? p X) := by
    intro p
    obtain ⟨a1t, a1f⟩ := ru_shape hw1 e1 hk1 p
    obtain ⟨a12t, a12f⟩ := ru_shape hw2 e12 K12 p
    obtain ⟨a2t, a2f⟩ := ru_shape hw2 e2 hk2 p
    obtain ⟨a21t, a21f⟩ := ru_shape hw1 e21 K21 p
    cases t1 : touched (.obj u1) p with
    | false =>
      cases t2 : touched (.obj u2) p with
      | false =>
        exact ⟨d, Or.inl rfl, by rw [a12f t2, a1f t1], by rw [a21f t1, a2f t2]⟩
      | true =>
        exact ⟨.obj u2, Or.inr (Or.inr rfl), a12t t2, by rw [a21f t1, a2t t2]⟩
    | true =>
      cases t2 : touched (.obj u2) p with
      | false =>
        exact ⟨.obj u1, Or.inr (Or.inl rfl), by rw [a12f t2, a1t t1], a21t t1⟩
      | true =>
        exact ⟨.obj u2, Or.inr (Or.inr rfl), a12t t2, by rw [a21t t1, hdis p t1 t2]⟩
  apply ext_j
  · intro p ks hg
    obtain ⟨X, hX, hs, _⟩ := key p
    rw [hg] at hs
    simp only [shape] at hs
    obtain ⟨ks', hX', hkeys⟩ := shape_node_inv hs.symm
    rw [← hkeys]
    rcases hX with rfl | rfl | rfl
    · exact hnd p ks' hX'
    · exact wf_nodupAt (a := .obj u1) hw1 p ks' hX'
    · exact wf_nodupAt (a := .obj u2) hw2 p ks' hX'
  · intro p
    obtain ⟨X, _, hs1, hs2⟩ := key p
    rw [hs1, hs2]


theorem ru_total : ∀ (ukvs : KV) (d : J), ukvs.wf = true → (ukvs = .nil ∨ d.isObj = true) →
    Known d (.obj ukvs) → ∃ r, ruKvs d ukvs = .ok r
  | .nil, d, _, _, _ => ⟨d, by simp [ruKvs]⟩
  | .cons k v rest, d, hwf, hd, hk => by
    obtain ⟨hk0, hvwf, hrwf⟩ := KV.wf_cons hwf
    have hobj : d.isObj = true := by
      rcases hd with h | h
      · cases h
      · exact h
    cases d with
    | obj dk =>
      obtain ⟨dk', hdk', hmem⟩ := hk [] (.cons k v rest) k (get?_nil _) (by simp [KV.keys])
      rw [get?_nil] at hdk'
      cases hdk'
      obtain ⟨dv, hdv⟩ := KV.lookup_of_mem_keys k dk hmem
      -- the rest of the loop sees a dictionary with the same keys and the same other values
      have hrest : ∀ x : J, Known (.obj (dk.setKey k x)) (.obj rest) := by
        intro x p uk k' hu hm'
        cases p with
        | nil =>
          rw [get?_nil] at hu
          cases hu
          obtain ⟨dk2, hd2, hmem2⟩ := hk [] (.cons k v rest) k' (get?_nil _) (by simp [KV.keys, hm'])
          rw [get?_nil] at hd2
          cases hd2
          exact ⟨_, get?_nil _, by rw [KV.keys_setKey_of_mem k x dk hmem]; exact hmem2⟩
        | cons k1 p1 =>
          obtain ⟨_, _, hj, hl1, _⟩ := get?_cons_some hu
          cases hj
          have hne : ¬ k = k1 := fun e => hk0 (e ▸ KV.mem_keys_of_lookup hl1)
          have hu' : get? (k1 :: p1) (.obj (.cons k v rest)) = some (.obj uk) := by
            simpa [get?, KV.lookup, hne] using hu
          obtain ⟨dk2, hd2, hmem2⟩ := hk (k1 :: p1) uk k' hu' hm'
          refine ⟨dk2, ?_, hmem2⟩
          simpa [get?, KV.lookup_setKey_ne x (Ne.symm hne)] using hd2
      cases v with
      | obj vk =>
        have hkv : Known dv (.obj vk) := by
          intro p uk k' hu hm'
          have hu' : get? (k :: p) (.obj (.cons k (.obj vk) rest)) = some (.obj uk) := by
            simpa [get?, KV.lookup] using hu
          obtain ⟨dk2, hd2, hmem2⟩ := hk (k :: p) uk k' hu' hm'
          exact ⟨dk2, by simpa [get?, hdv] using hd2, hmem2⟩
        have hdvobj : vk = .nil ∨ dv.isObj = true := by
          cases vk with
          | nil => exact Or.inl rfl
          | cons k1 v1 t1 =>
            obtain ⟨dk2, hd2, _⟩ := hkv [] _ k1 (get?_nil _) (by simp [KV.keys])
            rw [get?_nil] at hd2
            cases hd2
            exact Or.inr rfl
        obtain ⟨r0, hr0⟩ := ru_total vk dv hvwf hdvobj hkv
        obtain ⟨r, hr⟩ := ru_total rest (.obj (dk.setKey k r0)) hrwf (Or.inr rfl) (hrest r0)
        exact ⟨r, by simp [ruKvs, hdv, hr0, hr]⟩
      | _ => exact ru_total rest (.obj (dk.setKey k _)) hrwf (Or.inr rfl) (hrest _)
    | _ => simp [J.isObj] at hobj

theorem typeOk_obj {d : J} {tk : KV} (h : typeOk d (.obj tk) = true) : ∃ dk, d = .obj dk := by
  cases d with
  | obj dk => exact ⟨dk, rfl⟩
  | _ => simp [typeOk, J.tag, J.isStr] at h

theorem typeOk_leaf {d t : J} (h : typeOk d t = true) (ht : t.isObj = false) :
    d.isObj = false := by
  cases d with
  | obj dk => cases t <;> simp_all [typeOk, J.tag, J.isStr, J.isObj]
  | _ => rfl

theorem ct_typeOk {om : List String} {d t : J} (h : checkTypes om d t = .ok ()) :
    typeOk d t = true := by
  -- for a dictionary, a list and anything else alike: the node test comes first
  unfold checkTypes at h
  split at h
  · split at h
    next ht => exact ht
    · cases h
  · split at h
    next ht => exact ht
    · cases h
  · split at h
    next ht => exact ht
    · cases h

theorem ct_obj {om : List String} {d : J} {tk : KV} (h : checkTypes om d (.obj tk) = .ok ()) :
    ∃ dk, d = .obj dk ∧ ctKvs om dk tk = .ok () := by
  obtain ⟨dk, hd⟩ := typeOk_obj (ct_typeOk h)
  subst hd
  refine ⟨dk, rfl, ?_⟩
  simp only [checkTypes] at h
  split at h
  · exact h
  · cases h

theorem ctKvs_cons_inv {om : List String} {dk rest : KV} {k : String} {tv : J}
    (h : ctKvs om dk (.cons k tv rest) = .ok ()) :
    ctKvs om dk rest = .ok () ∧ (om.contains k = false →
      ∃ dv, dk.lookup k = some dv ∧ checkTypes om dv tv = .ok ()) := by
  simp only [ctKvs] at h
  split at h
  next ho => exact ⟨h, fun ho' => by rw [ho] at ho'; cases ho'⟩
  · split at h
    · cases h
    next dv hdv =>
      split at h
      next hc => exact ⟨h, fun _ => ⟨dv, hdv, hc⟩⟩
      · cases h

theorem ct_lookup {om : List String} {dk : KV} : ∀ (tk : KV) (k : String) (tv : J),
    ctKvs om dk tk = .ok () → tk.lookup k = some tv → om.contains k = false →
    ∃ dv, dk.lookup k = some dv ∧ checkTypes om dv tv = .ok () :=
  KV.forall_lookup (S := fun tk => ctKvs om dk tk = .ok ()) fun _ _ _ h => (ctKvs_cons_inv h).symm

def omitFree (om : List String) (p : Path) : Prop := ∀ k, k ∈ p → om.contains k = false

theorem ct_get {om : List String} : ∀ (p : Path) (d t tv : J),
    checkTypes om d t = .ok () → omitFree om p → get? p t = some tv →
    ∃ dv, get? p d = some dv ∧ checkTypes om dv tv = .ok ()
  | [], d, t, tv, h, _, hg => by
    rw [get?_nil] at hg
    cases hg
    exact ⟨d, get?_nil _, h⟩
  | k :: p, d, t, tv, h, ho, hg => by
    obtain ⟨tk, tv0, rfl, hl, hg⟩ := get?_cons_some hg
    obtain ⟨dk, rfl, hct⟩ := ct_obj h
    obtain ⟨dv0, hdv0, hc0⟩ := ct_lookup tk k tv0 hct hl (ho k (by simp))
    obtain ⟨dv, hdv, hc⟩ := ct_get p dv0 tv0 tv hc0 (fun k' hk' => ho k' (by simp [hk'])) hg
    exact ⟨dv, by simp [get?, hdv0, hdv], hc⟩

theorem ct_list_mem {om : List String} {d0 : J} : ∀ (tl : JL) (x : J),
    ctList om d0 tl = .ok () → x ∈ tl.toList → checkTypes om d0 x = .ok ()
  | .nil, _, _, hm => by simp [JL.toList] at hm
  | .cons t rest, x, h, hm => by
    simp only [ctList] at h
    cases hc : checkTypes om d0 t with
    | error e => simp [hc] at h
    | ok u =>
      simp only [hc] at h
      simp only [JL.toList, List.mem_cons] at hm
      rcases hm with rfl | hm
      · exact hc
      · exact ct_list_mem rest x h hm


mutual
def noPh : J → Bool
  | .list l => noPhL l
  | .obj kvs => noPhK kvs
  | v => !v.isPh
def noPhL : JL → Bool
  | .nil => true
  | .cons h t => noPh h && noPhL t
def noPhK : KV → Bool
  | .nil => true
  | .cons _ v t => noPh v && noPhK t
end

mutual
theorem rpVal_noPh : ∀ v : J, noPh (rpVal v) = true
  | .list l => by
    cases l with
    | nil => simp [rpVal, rpList, noPh, noPhL]
    | cons x t =>
      cases t with
      | nil =>
        by_cases hx : x.isPh = true
        · simp [rpVal, hx, noPh, noPhL]
        · simp [rpVal, hx, noPh, noPhL, rpVal_noPh x]
      | cons y t' =>
        have := rpList_noPh (.cons x (.cons y t'))
        simpa [rpVal, noPh] using this
  | .obj kvs => by
    have := rpKvs_noPh kvs
    simpa [rpVal, noPh] using this
  | .null | .bool _ | .int _ | .float _ _ => by simp [rpVal, J.isPh, noPh]
  | .str s => by
    simp only [rpVal]
    split <;> simp_all [noPh, J.isPh]
theorem rpList_noPh : ∀ l : JL, noPhL (rpList l) = true
  | .nil => by simp [rpList, noPhL]
  | .cons x t => by simp [rpList, noPhL, rpVal_noPh x, rpList_noPh t]
theorem rpKvs_noPh : ∀ kvs : KV, noPhK (rpKvs kvs) = true
  | .nil => by simp [rpKvs, noPhK]
  | .cons k v t => by simp [rpKvs, noPhK, rpVal_noPh v, rpKvs_noPh t]
end

mutual
theorem rpVal_id : ∀ v : J, noPh v = true → rpVal v = v
  | .list l, h => by
    cases l with
    | nil => simp [rpVal, rpList]
    | cons x t =>
      cases t with
      | nil =>
        simp only [noPh, noPhL, Bool.and_true] at h
        have hx : x.isPh = false := by
          cases x <;> simp_all [noPh, J.isPh]
        simp [rpVal, hx, rpVal_id x h]
      | cons y t' =>
        have := rpList_id (.cons x (.cons y t')) (by simpa [noPh] using h)
        simp [rpVal, this]
  | .obj kvs, h => by
    have := rpKvs_id kvs (by simpa [noPh] using h)
    simp [rpVal, this]
  | .null, _ | .bool _, _ | .int _, _ | .float _ _, _ => by simp [rpVal, J.isPh]
  | .str s, h => by
    have hs : (J.str s).isPh = false := by simpa [noPh] using h
    simp [rpVal, hs]
theorem rpList_id : ∀ l : JL, noPhL l = true → rpList l = l
  | .nil, _ => by simp [rpList]
  | .cons x t, h => by
    simp only [noPhL, Bool.and_eq_true] at h
    simp [rpList, rpVal_id x h.1, rpList_id t h.2]
theorem rpKvs_id : ∀ kvs : KV, noPhK kvs = true → rpKvs kvs = kvs
  | .nil, _ => by simp [rpKvs]
  | .cons k v t, h => by
    simp only [noPhK, Bool.and_eq_true] at h
    simp [rpKvs, rpVal_id v h.1, rpKvs_id t h.2]
end

theorem rpKvs_keys : ∀ kvs : KV, (rpKvs kvs).keys = kvs.keys
  | .nil => by simp [rpKvs, KV.keys]
  | .cons k v t => by simp [rpKvs, KV.keys, rpKvs_keys t]

theorem rpKvs_lookup (k : String) : ∀ kvs : KV, (rpKvs kvs).lookup k = (kvs.lookup k).map rpVal
  | .nil => by simp [rpKvs, KV.lookup]
  | .cons k' v t => by
    by_cases h : k' = k
    · simp [rpKvs, KV.lookup, h]
    · simp [rpKvs, KV.lookup, h, rpKvs_lookup k t]

theorem labelsOk_mem : ∀ (ls : List J) (s : String),
    labelsOk ls = .ok () → J.str s ∈ ls → isReserved s = false
  | [], _, _, hm => by simp at hm
  | l :: ls, s, h, hm => by
    cases l with
    | str s0 =>
      simp only [labelsOk] at h
      by_cases hr : isReserved s0 = true
      · simp [hr] at h
      · simp only [hr] at h
        simp only [List.mem_cons, J.str.injEq] at hm
        rcases hm with rfl | hm
        · simpa using hr
        · exact labelsOk_mem ls s h hm
    | _ => simp [labelsOk] at h

theorem namesOk_cons_inv {n : String} {p : J} {t : KV} (h : namesOk (.cons n p t) = .ok ()) :
    isReserved n = false ∧ namesOk t = .ok () ∧
    ∃ pk v ls, p = .obj pk ∧ pk.lookup "method_labels" = some v ∧ iterLabels v = .ok ls ∧
      labelsOk ls = .ok () := by
  simp only [namesOk] at h
  split at h
  · cases h
  next hr =>
  split at h
  case h_2 => cases h
  next pk =>
  split at h
  case h_2 => cases h
  next v hml =>
  split at h
  · cases h
  next ls hit =>
  split at h
  case h_2 => cases h
  next hlo =>
  exact ⟨Bool.eq_false_iff.mpr hr, h, pk, v, ls, rfl, hml, hit, hlo⟩

theorem namesOk_lookup : ∀ (progs : KV) (name : String) (prog : J),
    namesOk progs = .ok () → progs.lookup name = some prog →
    isReserved name = false ∧
    ∃ pk v ls, prog = .obj pk ∧ pk.lookup "method_labels" = some v ∧ iterLabels v = .ok ls ∧
      ∀ s, J.str s ∈ ls → isReserved s = false := by
  refine KV.forall_lookup (S := fun progs => namesOk progs = .ok ()) ?_
  intro n p t h
  obtain ⟨hr, ht, pk, v, ls, rfl, hml, hit, hlo⟩ := namesOk_cons_inv h
  exact ⟨⟨hr, pk, v, ls, rfl, hml, hit, fun s hs => labelsOk_mem ls s hlo hs⟩, ht⟩

theorem installLabels_only_missing : ∀ (pool : KV) (ls : List J) (acc : KV) (e : Rej),
    installLabels pool ls acc = .error e → e = .missing_method
  | _, [], _, _, h => by simp [installLabels] at h
  | pool, l :: ls, acc, e, h => by
    simp only [installLabels] at h
    split at h
    · split at h
      · exact installLabels_only_missing pool ls _ e h
      · cases h; rfl
    · cases h; rfl

theorem installLabels_cons_inv {pool acc ms : KV} {l : J} {ls : List J}
    (h : installLabels pool (l :: ls) acc = .ok ms) :
    ∃ key m, keyOf l = some key ∧ pool.lookup key = some m ∧
      installLabels pool ls (acc.setKey key m) = .ok ms := by
  simp only [installLabels] at h
  split at h
  next key hko =>
    split at h
    next m hp => exact ⟨key, m, hko, hp, h⟩
    · cases h
  · cases h

theorem installLabels_inv : ∀ (pool : KV) (ls : List J) (acc ms : KV),
    installLabels pool ls acc = .ok ms →
    (∀ key m, acc.lookup key = some m → pool.lookup key = some m) →
    (∀ key m, ms.lookup key = some m → pool.lookup key = some m) ∧
    (∀ key, key ∈ acc.keys → key ∈ ms.keys) ∧
    (∀ l, l ∈ ls → ∃ key, keyOf l = some key ∧ key ∈ ms.keys)
  | _, [], acc, ms, h, hinv => by
    simp only [installLabels] at h
    cases h
    exact ⟨hinv, fun _ hk => hk, by simp⟩
  | pool, l :: ls, acc, ms, h, hinv => by
    obtain ⟨key, m, hko, hp, h⟩ := installLabels_cons_inv h
    have hinv' : ∀ key' m', (acc.setKey key m).lookup key' = some m' →
        pool.lookup key' = some m' := by
      intro key' m' hl
      by_cases hk : key' = key
      · subst hk
        rw [KV.lookup_setKey_same] at hl
        cases hl; exact hp
      · rw [KV.lookup_setKey_ne m hk] at hl
        exact hinv key' m' hl
    obtain ⟨i1, i2, i3⟩ := installLabels_inv pool ls _ ms h hinv'
    have hkey : key ∈ ms.keys :=
      i2 key (KV.mem_keys_of_lookup (KV.lookup_setKey_same key m acc))
    refine ⟨i1, ?_, ?_⟩
    · intro k hk
      apply i2
      by_cases hm : key ∈ acc.keys
      · rw [KV.keys_setKey_of_mem key m acc hm]; exact hk
      · rw [KV.keys_setKey_of_not_mem key m acc hm]; simp [hk]
    · intro l' hl'
      simp only [List.mem_cons] at hl'
      rcases hl' with rfl | hl'
      · exact ⟨key, hko, hkey⟩
      · exact i3 l' hl'

theorem installLabels_missing : ∀ (pool : KV) (ls : List J) (acc : KV),
    (∃ l, l ∈ ls ∧ ∀ key, keyOf l = some key → pool.lookup key = none) →
    installLabels pool ls acc = .error .missing_method
  | _, [], _, h => by
    obtain ⟨l, hl, _⟩ := h
    simp at hl
  | pool, l :: ls, acc, h => by
    simp only [installLabels]
    cases hko : keyOf l with
    | none => rfl
    | some key =>
      cases hp : pool.lookup key with
      | none => simp [hp]
      | some m =>
        simp only [hp]
        apply installLabels_missing pool ls
        obtain ⟨l', hl', hmiss⟩ := h
        simp only [List.mem_cons] at hl'
        rcases hl' with rfl | hl'
        · rw [hmiss key hko] at hp
          cases hp
        · exact ⟨l', hl', hmiss⟩


theorem installMethod_inv {defs : KV} {m rm : J} (h : installMethod defs m = .ok rm) :
    ∃ mk df d, m = .obj mk ∧ methodDefFile mk = .ok df ∧ loadDef defs df = .ok d ∧
      checkTypes methodOmit d m = .ok () ∧ retainUpdate d m = .ok rm := by
  unfold installMethod at h
  split at h
  case h_2 => cases h
  next mk =>
  split at h
  · cases h
  next df hdf =>
  split at h
  · cases h
  next d hld =>
  split at h
  · cases h
  split at h
  · cases h
  next hct =>
  exact ⟨mk, df, d, rfl, hdf, hld, hct, h⟩

theorem installMethods_cons_inv {defs t ms' : KV} {k : String} {m : J}
    (h : installMethods defs (.cons k m t) = .ok ms') :
    ∃ r t', installMethod defs m = .ok r ∧ installMethods defs t = .ok t' ∧ ms' = .cons k r t' := by
  simp only [installMethods] at h
  split at h
  · cases h
  next r hm =>
    split at h
    next t' ht => cases h; exact ⟨r, t', hm, ht, rfl⟩
    · cases h

theorem installMethods_lookup (defs : KV) : ∀ (ms ms' : KV) (k : String) (m : J),
    installMethods defs ms = .ok ms' → ms.lookup k = some m →
    ∃ rm, installMethod defs m = .ok rm ∧ ms'.lookup k = some rm
  | .nil, _, _, _, _, hl => by simp [KV.lookup] at hl
  | .cons k0 m0 t, ms', k, m, h, hl => by
    obtain ⟨r0, t', hm, ht, rfl⟩ := installMethods_cons_inv h
    by_cases hk : k0 = k
    · simp only [KV.lookup, hk, if_true, Option.some.injEq] at hl ⊢
      exact ⟨r0, hl ▸ hm, rfl⟩
    · simp only [KV.lookup, hk, if_false] at hl ⊢
      exact installMethods_lookup defs t t' k m ht hl

theorem installMethods_keys (defs : KV) : ∀ (ms ms' : KV),
    installMethods defs ms = .ok ms' → ms'.keys = ms.keys
  | .nil, ms', h => by
    simp only [installMethods] at h
    cases h; rfl
  | .cons k0 m0 t, ms', h => by
    obtain ⟨r0, t', _, ht, rfl⟩ := installMethods_cons_inv h
    simp [KV.keys, installMethods_keys defs t t' ht]

theorem touched_of_leaf_at : ∀ (p : Path) (u v : J),
    get? p u = some v → v.isObj = false → touched u p = true
  | [], u, v, hg, hv => by
    rw [get?_nil] at hg
    cases hg
    exact touched_leaf hv []
  | k :: p, u, v, hg, hv => by
    obtain ⟨kvs, v0, rfl, hl, hg⟩ := get?_cons_some hg
    simp [touched, hl, touched_of_leaf_at p v0 v hg hv]

theorem omitFree_nil (p : Path) : omitFree [] p := by
  intro k _
  simp

theorem known_of_check {d u : J} (h : checkTypes [] d u = .ok ()) :
    Known d u ∧ LeafOnLeaf d u := by
  constructor
  · intro p uk k hu hm
    obtain ⟨dv, hdv, hc⟩ := ct_get p d u _ h (omitFree_nil p) hu
    obtain ⟨dk, hd, hct⟩ := ct_obj hc
    subst hd
    obtain ⟨tv, htv⟩ := KV.lookup_of_mem_keys k uk hm
    obtain ⟨dv2, hdv2, _⟩ := ct_lookup uk k tv hct htv (by simp)
    exact ⟨dk, hdv, KV.mem_keys_of_lookup hdv2⟩
  · intro p v hu hv
    obtain ⟨dv, hdv, hc⟩ := ct_get p d u _ h (omitFree_nil p) hu
    exact ⟨dv, hdv, typeOk_leaf (ct_typeOk hc) hv⟩

theorem disjoint_of_keys {u1 u2 : KV} (h : ∀ k, k ∈ u1.keys → k ∉ u2.keys) :
    DisjointLeaves (.obj u1) (.obj u2) := by
  intro p ⟨h1, h2⟩
  cases p with
  | nil => simp [touched] at h1
  | cons k p' =>
    obtain ⟨_, hl1, _⟩ := touched_cons h1
    obtain ⟨_, hl2, _⟩ := touched_cons h2
    exact h k (KV.mem_keys_of_lookup hl1) (KV.mem_keys_of_lookup hl2)


mutual
theorem J.beq_eq : ∀ (a b : J), J.beq a b = true → a = b
  | .null, b, h | .bool _, b, h | .int _, b, h | .float _ _, b, h | .str _, b, h => by
    cases b <;> simp_all [J.beq]
  | .list x, b, h => by
    cases b with
    | list y => simp only [J.beq] at h; rw [JL.beq_eq x y h]
    | _ => simp [J.beq] at h
  | .obj x, b, h => by
    cases b with
    | obj y => simp only [J.beq] at h; rw [KV.beq_eq x y h]
    | _ => simp [J.beq] at h
theorem JL.beq_eq : ∀ (a b : JL), JL.beq a b = true → a = b
  | .nil, b, h => by cases b <;> simp_all [JL.beq]
  | .cons x s, b, h => by
    cases b with
    | nil => simp [JL.beq] at h
    | cons y t =>
      simp only [JL.beq, Bool.and_eq_true] at h
      rw [J.beq_eq x y h.1, JL.beq_eq s t h.2]
theorem KV.beq_eq : ∀ (a b : KV), KV.beq a b = true → a = b
  | .nil, b, h => by cases b <;> simp_all [KV.beq]
  | .cons k x s, b, h => by
    cases b with
    | nil => simp [KV.beq] at h
    | cons k' y t =>
      simp only [KV.beq, Bool.and_eq_true, beq_iff_eq] at h
      rw [h.1.1, J.beq_eq x y h.1.2, KV.beq_eq s t h.2]
end

/-- `J` has no `DecidableEq`: a concrete result is confirmed by `decide +kernel` on this comparison -/
theorem eq_ok_of_beq {e : Except Rej J} {x : J}
    (h : (match e with | .ok r => J.beq r x | .error _ => false) = true) : e = .ok x := by
  cases e with
  | error _ => cases h
  | ok r => rw [J.beq_eq r x h]

theorem agreeB_lookup (u2 : KV) : ∀ (u1 : KV) (k : String) (v1 : J), agreeB u1 u2 = true →
    u1.lookup k = some v1 → ∀ v2, u2.lookup k = some v2 →
    (∃ a b, v1 = .obj a ∧ v2 = .obj b ∧ agreeB a b = true) ∨
    (v1.isObj = false ∧ v2.isObj = false ∧ v1 = v2) := by
  refine KV.forall_lookup (S := fun u1 => agreeB u1 u2 = true) ?_
  intro k x rest h
  simp only [agreeB, Bool.and_eq_true] at h
  refine ⟨fun v2 h2 => ?_, h.2⟩
  have h0 := h.1
  simp only [h2] at h0
  split at h0
  · exact Or.inl ⟨_, _, rfl, rfl, h0⟩
  · cases h0
  · cases h0
  · exact Or.inr ⟨J.isObj_of_ne ‹_›, J.isObj_of_ne ‹_›, J.beq_eq _ _ h0⟩

theorem agree_of_agreeB : ∀ (p : Path) (u1 u2 : KV), agreeB u1 u2 = true →
    touched (.obj u1) p = true → touched (.obj u2) p = true →
    get? p (.obj u1) = get? p (.obj u2)
  | [], _, _, _, h1, _ => by simp [touched] at h1
  | k :: p', u1, u2, h, h1, h2 => by
    obtain ⟨v1, hl1, h1⟩ := touched_cons h1
    obtain ⟨v2, hl2, h2⟩ := touched_cons h2
    simp only [get?, hl1, hl2]
    rcases agreeB_lookup u2 u1 k v1 h hl1 v2 hl2 with ⟨a, b, rfl, rfl, hab⟩ | ⟨_, _, rfl⟩
    · exact agree_of_agreeB p' a b hab h1 h2
    · rfl

theorem agreeOnCommon_of_agreeB {u1 u2 : KV} (h : agreeB u1 u2 = true) :
    AgreeOnCommon (.obj u1) (.obj u2) :=
  fun p h1 h2 => agree_of_agreeB p u1 u2 h h1 h2


mutual
/-- the specification of acceptance, as a plain conjunction (no evaluation order, no error kinds):
the node passes the type test; every key of a dictionary that is not an omit key is a key of the
default and its value conforms to the default's value; every element of a list conforms to the
first element of a non-empty default list -/
def conforms (om : List String) (d : J) : J → Bool
  | .obj tk =>
    typeOk d (.obj tk) && (match d with
      | .obj dk => confKvs om dk tk
      | _ => true)
  | .list tl =>
    typeOk d (.list tl) && (match d with
      | .list (.cons d0 _) => confList om d0 tl
      | _ => true)
  | t => typeOk d t
def confKvs (om : List String) (dk : KV) : KV → Bool
  | .nil => true
  | .cons k tv rest =>
    (om.contains k || (match dk.lookup k with
      | some dv => conforms om dv tv
      | none => false)) && confKvs om dk rest
def confList (om : List String) (d0 : J) : JL → Bool
  | .nil => true
  | .cons t rest => conforms om d0 t && confList om d0 rest
end

mutual
theorem ct_iff_conforms (om : List String) : ∀ (t d : J),
    checkTypes om d t = .ok () ↔ conforms om d t = true
  | .obj tk, d => by
    simp only [checkTypes, conforms]
    cases hty : typeOk d (.obj tk) with
    | false => simp
    | true =>
      cases d with
      | obj dk => simpa using ctKvs_iff om dk tk
      | _ => simp
  | .list tl, d => by
    simp only [checkTypes, conforms]
    cases hty : typeOk d (.list tl) with
    | false => simp
    | true =>
      cases d with
      | list dl =>
        cases dl with
        | nil => simp
        | cons d0 ds => simpa using ctList_iff om d0 tl
      | _ => simp
  | .null, d | .bool _, d | .int _, d | .float _ _, d | .str _, d => by
    simp only [checkTypes, conforms]
    split <;> simp_all
theorem ctKvs_iff (om : List String) (dk : KV) : ∀ (tk : KV),
    ctKvs om dk tk = .ok () ↔ confKvs om dk tk = true
  | .nil => by simp [ctKvs, confKvs]
  | .cons k tv rest => by
    simp only [ctKvs, confKvs]
    cases ho : om.contains k with
    | true => simpa using ctKvs_iff om dk rest
    | false =>
      cases hl : dk.lookup k with
      | none => simp
      | some dv =>
        have ih1 := ct_iff_conforms om tv dv
        have ih2 := ctKvs_iff om dk rest
        cases hc : checkTypes om dv tv with
        | error e => simp [hc] at ih1; simp [ih1, hc]
        | ok u => simp [hc] at ih1; simpa [ih1, hc] using ih2
theorem ctList_iff (om : List String) (d0 : J) : ∀ (tl : JL),
    ctList om d0 tl = .ok () ↔ confList om d0 tl = true
  | .nil => by simp [ctList, confList]
  | .cons t rest => by
    simp only [ctList, confList]
    have ih1 := ct_iff_conforms om t d0
    have ih2 := ctList_iff om d0 rest
    cases hc : checkTypes om d0 t with
    | error e => simp [hc] at ih1; simp [ih1]
    | ok u => simp [hc] at ih1; simpa [ih1, hc] using ih2
end


theorem confKvs_iff (om : List String) (dk : KV) : ∀ (tk : KV),
    confKvs om dk tk = true ↔
      ∀ k tv, (k, tv) ∈ tk.toList → om.contains k = false →
        ∃ dv, dk.lookup k = some dv ∧ conforms om dv tv = true
  | .nil => by simp [confKvs, KV.toList]
  | .cons k0 tv0 rest => by
    simp only [confKvs, KV.toList, Bool.and_eq_true, Bool.or_eq_true, List.mem_cons, Prod.mk.injEq,
      confKvs_iff om dk rest]
    constructor
    · rintro ⟨h0, hr⟩ k tv hm ho
      rcases hm with ⟨rfl, rfl⟩ | hm
      · rcases h0 with h0 | h0
        · rw [h0] at ho; cases ho
        · cases hl : dk.lookup k with
          | none => simp [hl] at h0
          | some dv => exact ⟨dv, rfl, by simpa [hl] using h0⟩
      · exact hr k tv hm ho
    · intro h
      refine ⟨?_, fun k tv hm ho => h k tv (Or.inr hm) ho⟩
      cases ho : om.contains k0 with
      | true => exact Or.inl rfl
      | false =>
        obtain ⟨dv, hdv, hc⟩ := h k0 tv0 (Or.inl ⟨rfl, rfl⟩) ho
        exact Or.inr (by simp [hdv, hc])

theorem confList_iff (om : List String) (d0 : J) : ∀ (tl : JL),
    confList om d0 tl = true ↔ ∀ x, x ∈ tl.toList → conforms om d0 x = true
  | .nil => by simp [confList, JL.toList]
  | .cons t rest => by
    simp only [confList, JL.toList, Bool.and_eq_true, List.mem_cons, confList_iff om d0 rest]
    constructor
    · rintro ⟨h0, hr⟩ x hx
      rcases hx with rfl | hx
      · exact h0
      · exact hr x hx
    · intro h
      exact ⟨h t (Or.inl rfl), fun x hx => h x (Or.inr hx)⟩


theorem isStr_eq {x : J} {s : String} (h : x.isStr s = true) : x = .str s := by
  cases x <;> simp_all [J.isStr]

theorem route_dispatch (defs : KV) (st : St) (file : KV) :
    (file.lookup "parameter_level" = some (.str "simulation_settings") →
        route defs st file = routeSim st file) ∧
    (file.lookup "parameter_level" = some (.str "virtual_world") →
        route defs st file = routeSection defs vwDefFile "virtual_world" st file) ∧
    (file.lookup "parameter_level" = some (.str "programs") →
        route defs st file = routeProgram defs st file) ∧
    (file.lookup "parameter_level" = some (.str "methods") →
        route defs st file = routeMethod st file) ∧
    (file.lookup "parameter_level" = some (.str "outputs") →
        route defs st file = routeSection defs outDefFile "outputs" st file) := by
  refine ⟨?_, ?_, ?_, ?_, ?_⟩ <;> intro hl <;> simp [route, hl, J.isStr]

theorem routeSim_inv {st st' : St} {file : KV} (h : routeSim st file = .ok st') :
    checkTypes ["programs"] (.obj ((st.sim.erase "virtual_world").erase "outputs")) (.obj file) = .ok () ∧
    retainUpdate (.obj st.sim) (.obj file) = .ok (.obj st'.sim) ∧
    st'.programs = st.programs ∧ st'.pool = st.pool := by
  simp only [routeSim] at h
  split at h
  · cases h
  split at h
  · cases h
  next hc =>
  split at h
  next s hr => cases h; exact ⟨hc, hr, rfl, rfl⟩
  · cases h
  · cases h

theorem routeProgram_inv {defs : KV} {st st' : St} {file : KV}
    (h : routeProgram defs st file = .ok st') :
    ∃ d p nm key,
      loadDef defs (match file.lookup "default_parameters" with
                    | some v => v
                    | none => .str progDefFile) = .ok d ∧
      checkTypes ["methods"] d (.obj file) = .ok () ∧ retainUpdate d (.obj file) = .ok (.obj p) ∧
      p.lookup "program_name" = some nm ∧ keyOf nm = some key ∧
      st'.programs = st.programs.setKey key (.obj p) ∧ st'.sim = st.sim ∧ st'.pool = st.pool := by
  simp only [routeProgram] at h
  split at h
  · cases h
  next d hd =>
  split at h
  · cases h
  split at h
  · cases h
  next hc =>
  split at h
  · cases h
  case h_3 => cases h
  next p hr =>
  split at h
  · cases h
  next nm hnm =>
  split at h
  · cases h
  next key hkey =>
  cases h
  exact ⟨d, p, nm, key, hd, hc, hr, hnm, hkey, rfl, rfl, rfl⟩

theorem routeMethod_inv {st st' : St} {file : KV} (h : routeMethod st file = .ok st') :
    ∃ nm key, file.lookup "method_name" = some nm ∧ keyOf nm = some key ∧
      st'.pool = st.pool.setKey key (.obj file) ∧ st'.sim = st.sim ∧ st'.programs = st.programs := by
  simp only [routeMethod] at h
  split at h
  · cases h
  next nm hnm =>
    split at h
    · cases h
    next key hkey => cases h; exact ⟨nm, key, hnm, hkey, rfl, rfl, rfl⟩

theorem route_level {defs : KV} {st st' : St} {file : KV} (h : route defs st file = .ok st') :
    ∃ s, file.lookup "parameter_level" = some (.str s) ∧
      (s = "simulation_settings" ∨ s = "virtual_world" ∨ s = "programs" ∨ s = "methods" ∨
        s = "outputs") := by
  simp only [route] at h
  split at h
  · cases h
  · rename_i lvl hl
    by_cases c1 : lvl.isStr "simulation_settings" = true
    · exact ⟨_, by rw [hl, isStr_eq c1], Or.inl rfl⟩
    · by_cases c2 : lvl.isStr "virtual_world" = true
      · exact ⟨_, by rw [hl, isStr_eq c2], Or.inr (Or.inl rfl)⟩
      · by_cases c3 : lvl.isStr "programs" = true
        · exact ⟨_, by rw [hl, isStr_eq c3], Or.inr (Or.inr (Or.inl rfl))⟩
        · by_cases c4 : lvl.isStr "methods" = true
          · exact ⟨_, by rw [hl, isStr_eq c4], Or.inr (Or.inr (Or.inr (Or.inl rfl)))⟩
          · by_cases c5 : lvl.isStr "outputs" = true
            · exact ⟨_, by rw [hl, isStr_eq c5], Or.inr (Or.inr (Or.inr (Or.inr rfl)))⟩
            · simp [c1, c2, c3, c4, c5] at h

theorem routeAll_each (defs : KV) : ∀ (fs : List KV) (st st' : St), routeAll defs st fs = .ok st' →
    ∀ f, f ∈ fs → ∃ s1 s2, route defs s1 f = .ok s2
  | [], _, _, _, _, hf => by simp at hf
  | g :: gs, st, st', h, f, hf => by
    simp only [routeAll] at h
    cases hr : route defs st g with
    | error e => simp [hr] at h
    | ok st1 =>
      simp only [hr] at h
      simp only [List.mem_cons] at hf
      rcases hf with rfl | hf
      · exact ⟨st, st1, hr⟩
      · exact routeAll_each defs gs st1 st' h f hf

theorem installPrograms_lookup (defs pool : KV) : ∀ (ps ps' : KV) (k : String) (p : J),
    installPrograms defs pool ps = .ok ps' → ps.lookup k = some p →
    ∃ r, installProgram defs pool p = .ok r ∧ ps'.lookup k = some r
  | .nil, _, _, _, _, hl => by simp [KV.lookup] at hl
  | .cons k0 p0 t, ps', k, p, h, hl => by
    simp only [installPrograms] at h
    split at h
    · cases h
    next r0 hp0 =>
      split at h
      next t' ht =>
        cases h
        by_cases hk : k0 = k
        · simp only [KV.lookup, hk, if_true, Option.some.injEq] at hl ⊢
          exact ⟨r0, hl ▸ hp0, rfl⟩
        · simp only [KV.lookup, hk, if_false] at hl ⊢
          exact installPrograms_lookup defs pool t t' k p ht hl
      · cases h

theorem intake_inv {defs : KV} {files : List KV} {r : J} (h : intake defs files = .ok r) :
    ∃ sim0 fs sim, defs.lookup simDefFile = some (.obj sim0) ∧ versionGate false files = .ok fs ∧
      parse defs sim0 fs = .ok sim ∧ r = .obj (rpKvs sim) ∧ validateNames (rpKvs sim) = .ok () := by
  simp only [intake, removePlaceholders] at h
  split at h
  case h_2 => cases h
  next sim0 hs =>
  split at h
  · cases h
  next fs hv =>
  split at h
  · cases h
  next sim hp =>
  split at h
  case h_2 => cases h
  next hn =>
  cases h
  exact ⟨sim0, fs, sim, hs, hv, hp, rfl, hn⟩

theorem parse_inv {defs sim0 sim : KV} {fs : List KV} (h : parse defs sim0 fs = .ok sim) :
    ∃ st ps,
      routeAll defs { sim := sim0, programs := .nil, pool := .nil }
        (if hasOutputsFile fs then fs
         else fs ++ [KV.cons "parameter_level" (.str "outputs") .nil]) = .ok st ∧
      installPrograms defs st.pool st.programs = .ok ps ∧
      sim = st.sim.setKey "programs" (.obj ps) := by
  simp only [parse] at h
  split at h
  · cases h
  next st hr =>
    split at h
    · cases h
    · split at h
      · cases h
      next ps hi => cases h; exact ⟨st, ps, hr, hi, rfl⟩

theorem get?_rpVal : ∀ (p : Path) (j : J), get? p (rpVal j) = (get? p j).map rpVal
  | [], j => by simp [get?_nil]
  | k :: p, j => by
    cases j with
    | obj kvs =>
      simp only [rpVal, get?, rpKvs_lookup]
      cases kvs.lookup k with
      | none => simp
      | some v => simpa using get?_rpVal p v
    | list l =>
      have : ∀ x : J, x.isObj = false → get? (k :: p) x = none := fun x hx => get?_cons_leaf k p x hx
      rw [this (.list l) rfl]
      cases l with
      | nil => simp [rpVal, rpList, get?]
      | cons x t =>
        cases t with
        | nil =>
          by_cases hx : x.isPh = true
          · simp [rpVal, hx, get?]
          · simp [rpVal, hx, get?]
        | cons y t' => simp [rpVal, get?]
    | str s =>
      simp only [rpVal]
      split <;> simp [get?]
    | _ => simp [rpVal, J.isPh, get?]


/-- what routing a file that is not a simulation-settings file does to the state: it writes one
slot with a value computed from the file and the defaults alone -/
inductive Write
  | slot (s : String) (r : J)          -- `simulation_parameters[s] = r`
  | prog (k : String) (p : J)          -- `programs[k] = p`
  | meth (k : String) (m : J)          -- `method_pool[k] = m`

def applyW : Write → St → St
  | .slot s r, st => { st with sim := st.sim.setKey s r }
  | .prog k p, st => { st with programs := st.programs.setKey k p }
  | .meth k m, st => { st with pool := st.pool.setKey k m }

def Write.target : Write → String × String
  | .slot s _ => ("section", s)
  | .prog k _ => ("program", k)
  | .meth k _ => ("method", k)

/-- same dictionaries up to the order of keys -/
def St.equiv (a b : St) : Prop :=
  (∀ k, a.sim.lookup k = b.sim.lookup k) ∧ (∀ k, a.programs.lookup k = b.programs.lookup k) ∧
  (∀ k, a.pool.lookup k = b.pool.lookup k)

theorem KV.lookup_setKey_comm {k1 k2 : String} (v1 v2 : J) (h : k1 ≠ k2) (kvs : KV) (k : String) :
    ((kvs.setKey k1 v1).setKey k2 v2).lookup k = ((kvs.setKey k2 v2).setKey k1 v1).lookup k := by
  by_cases e1 : k = k1
  · subst e1
    rw [KV.lookup_setKey_ne v2 h, KV.lookup_setKey_same, KV.lookup_setKey_same]
  · by_cases e2 : k = k2
    · subst e2
      rw [KV.lookup_setKey_same, KV.lookup_setKey_ne v1 e1, KV.lookup_setKey_same]
    · rw [KV.lookup_setKey_ne v2 e2, KV.lookup_setKey_ne v1 e1, KV.lookup_setKey_ne v1 e1,
        KV.lookup_setKey_ne v2 e2]

theorem applyW_comm (w1 w2 : Write) (st : St) (h : w1.target ≠ w2.target) :
    St.equiv (applyW w2 (applyW w1 st)) (applyW w1 (applyW w2 st)) := by
  -- two writes to the same dictionary go to different keys; writes to different dictionaries
  -- do not meet at all
  have hk : ∀ {a b : String} {t : String}, ((t, a) : String × String) ≠ (t, b) → a ≠ b :=
    fun hne e => hne (e ▸ rfl)
  cases w1 with
  | slot s1 r1 =>
    cases w2 with
    | slot s2 r2 => exact ⟨KV.lookup_setKey_comm r1 r2 (hk h) st.sim, fun _ => rfl, fun _ => rfl⟩
    | prog _ _ => exact ⟨fun _ => rfl, fun _ => rfl, fun _ => rfl⟩
    | meth _ _ => exact ⟨fun _ => rfl, fun _ => rfl, fun _ => rfl⟩
  | prog k1 p1 =>
    cases w2 with
    | slot _ _ => exact ⟨fun _ => rfl, fun _ => rfl, fun _ => rfl⟩
    | prog k2 p2 => exact ⟨fun _ => rfl, KV.lookup_setKey_comm p1 p2 (hk h) st.programs, fun _ => rfl⟩
    | meth _ _ => exact ⟨fun _ => rfl, fun _ => rfl, fun _ => rfl⟩
  | meth k1 m1 =>
    cases w2 with
    | slot _ _ => exact ⟨fun _ => rfl, fun _ => rfl, fun _ => rfl⟩
    | prog _ _ => exact ⟨fun _ => rfl, fun _ => rfl, fun _ => rfl⟩
    | meth k2 m2 => exact ⟨fun _ => rfl, fun _ => rfl, KV.lookup_setKey_comm m1 m2 (hk h) st.pool⟩

theorem routeSection_uniform (defs : KV) (defFile slot : String) (file : KV) :
    (∃ e, ∀ st, routeSection defs defFile slot st file = .error e) ∨
    (∃ r, ∀ st, routeSection defs defFile slot st file = .ok (applyW (.slot slot r) st)) := by
  simp only [routeSection, applyW]
  cases h1 : loadDef defs (match file.lookup "default_parameters" with
      | some v => v
      | none => .str defFile) with
  | error e => exact Or.inl ⟨e, fun _ => rfl⟩
  | ok d =>
    cases h2 : checkTypes [] d (.obj file) with
    | error e => exact Or.inl ⟨e, fun _ => by simp [h2]⟩
    | ok u =>
      cases h3 : retainUpdate d (.obj file) with
      | error e => exact Or.inl ⟨e, fun _ => by simp [h2, h3]⟩
      | ok r => exact Or.inr ⟨r, fun _ => by simp [h2, h3]⟩

theorem routeProgram_uniform (defs : KV) (file : KV) :
    (∃ e, ∀ st, routeProgram defs st file = .error e) ∨
    (∃ k p, ∀ st, routeProgram defs st file = .ok (applyW (.prog k p) st)) := by
  simp only [routeProgram, applyW]
  cases h1 : loadDef defs (match file.lookup "default_parameters" with
      | some v => v
      | none => .str progDefFile) with
  | error e => exact Or.inl ⟨e, fun _ => rfl⟩
  | ok d =>
    cases h0 : file.lookup "program_name" with
    | none => exact Or.inl ⟨_, fun _ => rfl⟩
    | some nm0 =>
      cases h2 : checkTypes ["methods"] d (.obj file) with
      | error e => exact Or.inl ⟨e, fun _ => by simp [h2]⟩
      | ok u =>
        cases h3 : retainUpdate d (.obj file) with
        | error e => exact Or.inl ⟨e, fun _ => by simp [h2, h3]⟩
        | ok r =>
          cases r with
          | obj p =>
            cases hn : p.lookup "program_name" with
            | none => exact Or.inl ⟨.key_error, fun _ => by simp [h2, h3, hn]⟩
            | some nm =>
              cases hk : keyOf nm with
              | none => exact Or.inl ⟨.type_error, fun _ => by simp [h2, h3, hn, hk]⟩
              | some key => exact Or.inr ⟨key, .obj p, fun _ => by simp [h2, h3, hn, hk]⟩
          | _ => exact Or.inl ⟨.type_error, fun _ => by simp [h2, h3]⟩

theorem routeMethod_uniform (file : KV) :
    (∃ e, ∀ st, routeMethod st file = .error e) ∨
    (∃ k, ∀ st, routeMethod st file = .ok (applyW (.meth k (.obj file)) st)) := by
  simp only [routeMethod, applyW]
  cases h0 : file.lookup "method_name" with
  | none => exact Or.inl ⟨_, fun _ => rfl⟩
  | some nm =>
    cases hk : keyOf nm with
    | none => exact Or.inl ⟨.type_error, fun _ => by simp [hk]⟩
    | some key => exact Or.inr ⟨key, fun _ => by simp [hk]⟩

def kindOf (s : String) : String :=
  if s = "programs" then "program" else if s = "methods" then "method" else "section"

/-- a file of one of the four non-accumulating levels either is rejected whatever came before, or
writes one slot with a value that does not depend on what came before -/
theorem route_uniform (defs : KV) (file : KV) (s : String)
    (hl : file.lookup "parameter_level" = some (.str s))
    (hs : s = "virtual_world" ∨ s = "outputs" ∨ s = "programs" ∨ s = "methods") :
    (∃ e, ∀ st, route defs st file = .error e) ∨
    (∃ w : Write, (∀ st, route defs st file = .ok (applyW w st)) ∧
      w.target.1 = kindOf s ∧ (kindOf s = "section" → w.target.2 = s)) := by
  rcases hs with rfl | rfl | rfl | rfl
  · rcases routeSection_uniform defs vwDefFile "virtual_world" file with ⟨e, he⟩ | ⟨r, hr⟩
    · exact Or.inl ⟨e, fun st => by rw [(route_dispatch defs st file).2.1 hl, he]⟩
    · exact Or.inr ⟨_, fun st => by rw [(route_dispatch defs st file).2.1 hl, hr], rfl, fun _ => rfl⟩
  · rcases routeSection_uniform defs outDefFile "outputs" file with ⟨e, he⟩ | ⟨r, hr⟩
    · exact Or.inl ⟨e, fun st => by rw [(route_dispatch defs st file).2.2.2.2 hl, he]⟩
    · exact Or.inr ⟨_, fun st => by rw [(route_dispatch defs st file).2.2.2.2 hl, hr], rfl,
        fun _ => rfl⟩
  · rcases routeProgram_uniform defs file with ⟨e, he⟩ | ⟨k, p, hr⟩
    · exact Or.inl ⟨e, fun st => by rw [(route_dispatch defs st file).2.2.1 hl, he]⟩
    · exact Or.inr ⟨_, fun st => by rw [(route_dispatch defs st file).2.2.1 hl, hr], rfl,
        fun h => absurd h (by decide)⟩
  · rcases routeMethod_uniform file with ⟨e, he⟩ | ⟨k, hr⟩
    · exact Or.inl ⟨e, fun st => by rw [(route_dispatch defs st file).2.2.2.1 hl, he]⟩
    · exact Or.inr ⟨_, fun st => by rw [(route_dispatch defs st file).2.2.2.1 hl, hr], rfl,
        fun h => absurd h (by decide)⟩


theorem KV.has_setKey_other {k k' : String} (v : J) (h : k' ≠ k) (kvs : KV) :
    (kvs.setKey k v).has k' = kvs.has k' := by
  simp [KV.has, KV.lookup_setKey_ne v h]

theorem KV.wf_setKey (k : String) (v : J) : ∀ (kvs : KV), kvs.wf = true → v.wf = true →
    (kvs.setKey k v).wf = true
  | .nil, _, hv => by simp [KV.setKey, KV.wf, KV.has, KV.lookup, hv]
  | .cons k' v' t, hwf, hv => by
    obtain ⟨hk', hv', ht⟩ := KV.wf_cons hwf
    have hnot : t.has k' = false := by
      cases hh : t.has k' with
      | false => rfl
      | true => exact absurd ((KV.has_iff_mem_keys k' t).mp hh) hk'
    by_cases e : k' = k
    · subst e
      simp [KV.setKey, KV.wf, hnot, hv, ht]
    · have : (t.setKey k v).has k' = false := by
        rw [KV.has_setKey_other v e]; exact hnot
      simp [KV.setKey, e, KV.wf, this, hv', KV.wf_setKey k v t ht hv]

end LdarModel.Tree
