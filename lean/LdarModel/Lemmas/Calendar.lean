import LdarModel.Model.Summary
/-
`Summary.Date.ord` is the usual "days from civil" computation: the year is taken to start on March 1
(so that the leap day is its last day), `marchDays Y` counts the days before March 1 of year `Y`, the
month adds `monthOffset m` and the day of the month the rest (`Date.ord_eq`).  The Gregorian rule
enters only in `marchDays_step`; the other facts about ordinals are linear arithmetic over `ord_eq`,
that step and values or differences of `monthOffset`.
-/
namespace LdarModel.Summary

/-- days from 0000-03-01 to March 1 of year `Y` -/
def marchDays (Y : Int) : Int := 365 * Y + Y / 4 - Y / 100 + Y / 400

/-- days from March 1 to the first of month `m` (January and February: of the following year) -/
def monthOffset (m : Nat) : Int := (153 * (((m : Int) + 9) % 12) + 2) / 5

theorem Date.ord_eq (t : Date) :
    t.ord = marchDays (if t.m ≤ 2 then (t.y : Int) - 1 else t.y) + monthOffset t.m + t.d - 719469 := by
  simp only [Date.ord, marchDays, monthOffset]; omega

/-- `leap` is what either `isLeap` of the model unfolds to -/
theorem marchDays_step (y : Nat) (leap : Bool) (h : ((y % 4 == 0 && y % 100 != 0) || y % 400 == 0) = leap) :
    marchDays y = marchDays ((y : Int) - 1) + if leap then 366 else 365 := by
  subst h
  simp only [marchDays, Bool.or_eq_true, Bool.and_eq_true, beq_iff_eq, bne_iff_ne]; split <;> omega

theorem marchDays_lt (y : Nat) : marchDays ((y : Int) - 1) + 365 ≤ marchDays y := by
  have := marchDays_step y _ rfl; split at this <;> omega

/-- the lengths of the months other than February -/
theorem monthOffset_succ : ∀ m < 12, 1 ≤ m → m ≠ 2 →
    monthOffset (m + 1) = monthOffset m + ((if m = 4 ∨ m = 6 ∨ m = 9 ∨ m = 11 then 30 else 31 : Nat) : Int) := by
  decide

theorem eoy_succ (y : Nat) : (⟨y, 12, 31⟩ : Date).ord + 1 = (⟨y + 1, 1, 1⟩ : Date).ord := by
  simp [Date.ord_eq, monthOffset]; omega

end LdarModel.Summary
