import LdarModel.Model.Effects
/-
Lemmas for C12.  A task that deep-copies and obeys the effect discipline (`okOps`) computes the same from
any two process states that agree on the relevant containers and, once it has re-seeded, on the numpy
generator (`Agree`, `exec_agree`), and it leaves the relevant containers and the object graph as it found
them (`exec_shared_rel`, `exec_objs`).  The second half obtains the discipline from the shape of a program
(`clean_ops_ok`) and that shape from the extracted tables (`conforms_dayLoopForm`, `conforms_clean`).
Core Lean only.
-/
namespace LdarModel.Effects

/-- indistinguishable for a disciplined task; `s` = the task has re-seeded -/
def Agree (rel : Nat → Bool) (s : Bool) (e1 e2 : Env) : Prop :=
  (∀ c, rel c = true → e1.shared c = e2.shared c) ∧ (s = true → e1.np = e2.np)

theorem Env.setRng_objs (e : Env) (g : Gen) (s : Nat) : (e.setRng g s).objs = e.objs := by cases g <;> rfl

theorem Env.setRng_shared (e : Env) (g : Gen) (s : Nat) : (e.setRng g s).shared = e.shared := by cases g <;> rfl

theorem step_objs (sim : Nat) (seedOf : Nat → Nat) (p : Priv) (e : Env) (op : Op) :
    (step true sim seedOf p e op).2.objs = e.objs := by
  cases op with
  | draw g => exact Env.setRng_objs ..
  | _ => rfl

theorem exec_objs (sim : Nat) (seedOf : Nat → Nat) (ops : List Op) (p : Priv) (e : Env) :
    (exec true sim seedOf ops p e).2.objs = e.objs := by
  induction ops generalizing p e with
  | nil => rfl
  | cons op r ih => rw [exec, ih, step_objs]

theorem step_shared_rel (cp : Bool) (sim : Nat) (seedOf : Nat → Nat) (rel : Nat → Bool) (s : Bool) (op : Op) (p : Priv) (e : Env)
    (hok : opOk rel s op = true) : ∀ c, rel c = true → (step cp sim seedOf p e op).2.shared c = e.shared c := by
  intro c hc
  cases op with
  | write c' v =>
    have hne : c ≠ c' := fun heq => by simp [opOk, ← heq, hc] at hok
    simp [step, hne]
  | draw g => exact congrFun (Env.setRng_shared ..) c
  | touch o v => cases cp <;> rfl
  | _ => rfl

theorem exec_shared_rel (cp : Bool) (sim : Nat) (seedOf : Nat → Nat) (rel : Nat → Bool)
    (ops : List Op) (s : Bool) (p : Priv) (e : Env) (hok : okOps rel s ops = true)
    (c : Nat) (hc : rel c = true) : (exec cp sim seedOf ops p e).2.shared c = e.shared c := by
  induction ops generalizing s p e with
  | nil => rfl
  | cons op r ih =>
    simp only [okOps, Bool.and_eq_true] at hok
    rw [exec, ih _ _ _ hok.2]
    exact step_shared_rel cp sim seedOf rel s op p e hok.1 c hc

theorem step_agree (sim : Nat) (seedOf : Nat → Nat) (rel : Nat → Bool) (s : Bool) (op : Op) (p : Priv) (e1 e2 : Env)
    (hok : opOk rel s op = true) (h : Agree rel s e1 e2) :
    (step true sim seedOf p e1 op).1 = (step true sim seedOf p e2 op).1 ∧
    Agree rel (s || op.isSeed) (step true sim seedOf p e1 op).2 (step true sim seedOf p e2 op).2 := by
  obtain ⟨hsh, hnp⟩ := h
  have hsh' : ∀ c, rel c = true →
      (step true sim seedOf p e1 op).2.shared c = (step true sim seedOf p e2 op).2.shared c := fun c hc => by
    rw [step_shared_rel _ _ _ _ _ _ _ _ hok c hc, step_shared_rel _ _ _ _ _ _ _ _ hok c hc, hsh c hc]
  cases op with
  | seed d => exact ⟨rfl, hsh', fun _ => rfl⟩
  | draw g =>
    simp only [opOk, Bool.and_eq_true, decide_eq_true_eq] at hok
    obtain ⟨rfl, hs⟩ := hok
    have hn : e1.np = e2.np := hnp hs
    exact ⟨by simp [step, Env.rng, hn], hsh', fun _ => by simp [step, Env.setRng, Env.rng, hn]⟩
  | read c => exact ⟨by simp [step, hsh c hok], hsh', fun hs => hnp (by simpa [Op.isSeed] using hs)⟩
  | _ => exact ⟨rfl, hsh', fun hs => hnp (by simpa [Op.isSeed] using hs)⟩

theorem exec_agree (sim : Nat) (seedOf : Nat → Nat) (rel : Nat → Bool)
    (ops : List Op) (s : Bool) (p : Priv) (e1 e2 : Env)
    (hok : okOps rel s ops = true) (h : Agree rel s e1 e2) :
    (exec true sim seedOf ops p e1).1 = (exec true sim seedOf ops p e2).1 := by
  induction ops generalizing s p e1 e2 with
  | nil => rfl
  | cons op r ih =>
    simp only [okOps, Bool.and_eq_true] at hok
    obtain ⟨hp, ha⟩ := step_agree sim seedOf rel s op p e1 e2 hok.1 h
    rw [exec, exec, hp]
    exact ih _ _ _ _ hok.2 ha

theorem okOps_append (rel : Nat → Bool) (a b : List Op) (s : Bool) :
    okOps rel s (a ++ b) = (okOps rel s a && okOps rel (s || a.any Op.isSeed) b) := by
  induction a generalizing s with
  | nil => simp [okOps]
  | cons op r ih => simp only [List.cons_append, okOps, ih, List.any_cons, Bool.and_assoc, Bool.or_assoc]

theorem okOps_true (rel : Nat → Bool) (ops : List Op) : okOps rel true ops = ops.all (opOk rel true) := by
  induction ops with
  | nil => rfl
  | cons op r ih => rw [okOps, Bool.true_or, ih, List.all_cons]

theorem opOk_of_not_isDraw (rel : Nat → Bool) (s t : Bool) {op : Op} (h : op.isDraw = false) :
    opOk rel s op = opOk rel t op := by
  cases op with
  | draw g => cases h
  | _ => rfl

theorem okOps_of_noDraw (rel : Nat → Bool) (ops : List Op) (s : Bool)
    (h : okOps rel true ops = true) (hn : noDraw ops = true) : okOps rel s ops = true := by
  induction ops generalizing s with
  | nil => rfl
  | cons op r ih =>
    simp only [okOps, Bool.true_or, noDraw, List.all_cons, Bool.and_eq_true, Bool.not_eq_true'] at h hn ⊢
    exact ⟨opOk_of_not_isDraw rel s true hn.1 ▸ h.1, ih _ h.2 (List.all_eq_true.2 (by simpa using hn.2))⟩

theorem dayOps_ok (rel : Nat → Bool) (body : List (List Op)) (d : Nat) (s : Bool)
    (h : body.all (okOps rel true) = true) : okOps rel s (dayOps true d body) = true := by
  induction body generalizing d s with
  | nil => rfl
  | cons b r ih =>
    simp only [List.all_cons, Bool.and_eq_true] at h
    simp only [dayOps, if_true, List.cons_append, List.nil_append, okOps, opOk, Op.isSeed, Bool.or_true,
      Bool.true_and, okOps_append, Bool.true_or, Bool.and_eq_true]
    exact ⟨h.1, ih (d + 1) true h.2⟩

theorem dayOps_any_isSeed (body : List (List Op)) (d : Nat) (h : body.isEmpty = false) :
    (dayOps true d body).any Op.isSeed = true := by
  cases body with
  | nil => cases h
  | cons b r => rfl

theorem clean_ops_ok (rel : Nat → Bool) (p : Prog) (h : p.clean rel = true) :
    okOps rel false (p.ops true) = true := by
  simp only [Prog.clean, Bool.and_eq_true, Bool.or_eq_true, Bool.not_eq_true'] at h
  obtain ⟨⟨⟨⟨hpro, hnd⟩, hbody⟩, hepi⟩, hlast⟩ := h
  simp only [Prog.ops, okOps_append, Bool.and_eq_true]
  refine ⟨⟨okOps_of_noDraw rel _ false hpro hnd, dayOps_ok rel _ 0 _ hbody⟩, ?_⟩
  cases hlast with
  | inl hne => simpa [dayOps_any_isSeed p.body 0 hne] using hepi
  | inr hnd' => exact okOps_of_noDraw rel _ _ hepi hnd'

theorem conforms_dayLoopForm (T : Tables) (p : Prog) (hpc : T.prologueClean)
    (hc : conforms T p = true) (hb : p.body ≠ []) : p.dayLoopForm = true := by
  simp only [conforms, Bool.and_eq_true, List.all_eq_true] at hc
  simp only [Prog.dayLoopForm, Bool.and_eq_true, Bool.or_eq_true, Bool.not_eq_true', noDraw, List.all_eq_true]
  refine ⟨fun o ho => ?_, Or.inl (by simpa using hb)⟩
  have := hc.2 o ho
  cases o with
  | draw g => rw [hpc] at this; cases this
  | _ => rfl

/-- `fun _ => true`: every container counts as relevant, so nothing may be written -/
theorem conforms_clean (T : Tables) (p : Prog) (hr : T.rngAllSeeded) (hm : T.noSharedMutation)
    (hc' : conforms T p = true) (hf : p.dayLoopForm = true) : p.clean (fun _ => true) = true := by
  simp only [conforms, Bool.and_eq_true, List.all_eq_true] at hc'
  have hop : ∀ o ∈ p.allOps, opOk (fun _ => true) true o = true := by
    intro o ho
    have := hc'.1 o ho
    cases o with
    | draw g =>
      obtain ⟨s, hs, hg⟩ := List.any_eq_true.1 this
      simp [opOk, ← of_decide_eq_true hg, hr s hs]
    | write c v => rw [hm] at this; cases this
    | _ => rfl
  have hall : ∀ l : List Op, (∀ o ∈ l, o ∈ p.allOps) → okOps (fun _ => true) true l = true := fun l hl => by
    rw [okOps_true, List.all_eq_true]
    exact fun o ho => hop o (hl o ho)
  simp only [Prog.dayLoopForm, Bool.and_eq_true] at hf
  simp only [Prog.clean, Bool.and_eq_true, List.all_eq_true]
  refine ⟨⟨⟨⟨hall _ fun o ho => ?_, hf.1⟩, fun b hb => hall _ fun o ho => ?_⟩, hall _ fun o ho => ?_⟩, hf.2⟩
  · exact List.mem_append_left _ (List.mem_append_left _ ho)
  · exact List.mem_append_left _ (List.mem_append_right _ (List.mem_flatten.2 ⟨b, hb, ho⟩))
  · exact List.mem_append_right _ ho

theorem dayLoopReseeds_of_consumers (T : Tables) (h : T.consumersReseeded) : T.dayLoopReseeds = true := by
  obtain ⟨hall, hone⟩ := h
  have hne : T.seedPoints.filter (fun p => decide (p.kind = .dayLoop)) ≠ [] := by
    intro h0
    rw [h0] at hone
    simp at hone
  obtain ⟨p, hp⟩ := List.exists_mem_of_ne_nil _ hne
  rw [List.mem_filter] at hp
  unfold Tables.dayLoopReseeds
  rw [List.any_eq_true]
  exact ⟨p, hp.1, by simp [hall p hp.1, hp.2]⟩

end LdarModel.Effects
