import LdarModel.Model.Sensor
/-
Lemmas for the sensor model.  Every total of the model is a `List.sum` (`…_eq_sum`), so a few facts about
sums of integer lists serve them all; `detectOne` goes through the coverage check (`detectOne_in_scope`,
`detectOne_out_of_scope`); the visible list is the survey filtered by `visible` (`visList_detect`).
-/
namespace LdarModel.Sensor

theorem sum_map_nonneg {α : Type} (f : α → Int) (l : List α) (h : ∀ a ∈ l, 0 ≤ f a) : 0 ≤ (l.map f).sum := by
  induction l with
  | nil => exact Int.le_refl 0
  | cons a l ih =>
    rw [List.map_cons, List.sum_cons]
    exact Int.add_nonneg (h a List.mem_cons_self) (ih fun b hb => h b (List.mem_cons_of_mem _ hb))

theorem sum_map_eq_zero {α : Type} (f : α → Int) (l : List α) (h : ∀ a ∈ l, f a = 0) : (l.map f).sum = 0 := by
  induction l with
  | nil => rfl
  | cons a l ih =>
    rw [List.map_cons, List.sum_cons, h a List.mem_cons_self, ih fun b hb => h b (List.mem_cons_of_mem _ hb)]
    rfl

theorem exists_ne_zero_of_sum_map_ne_zero {α : Type} (f : α → Int) (l : List α) (h : (l.map f).sum ≠ 0) :
    ∃ a ∈ l, f a ≠ 0 := by
  induction l with
  | nil => exact absurd rfl h
  | cons a l ih =>
    by_cases ha : f a = 0
    · simp only [List.map_cons, List.sum_cons, ha, Int.zero_add] at h
      obtain ⟨b, hb, hb'⟩ := ih h
      exact ⟨b, List.mem_cons_of_mem _ hb, hb'⟩
    · exact ⟨a, List.mem_cons_self, ha⟩

theorem sum_map_filter_le {α : Type} (f : α → Int) (p : α → Bool) (l : List α) (h : ∀ a ∈ l, 0 ≤ f a) :
    ((l.filter p).map f).sum ≤ (l.map f).sum := by
  induction l with
  | nil => exact Int.le_refl _
  | cons a l ih =>
    have ih := ih fun b hb => h b (List.mem_cons_of_mem _ hb)
    rw [List.filter_cons]
    split <;> simp only [List.map_cons, List.sum_cons]
    · exact Int.add_le_add_left ih _
    · exact Int.le_trans ih (Int.le_add_of_nonneg_left (h a List.mem_cons_self))

theorem sumRates_eq_sum : ∀ l : List Emis, sumRates l = (l.map (·.rate)).sum
  | [] => rfl
  | e :: l => by rw [sumRates, sumRates_eq_sum l, List.map_cons, List.sum_cons]

theorem sumMeasC_eq_sum : ∀ l : List CompRep, sumMeasC l = (l.map (·.measured)).sum
  | [] => rfl
  | r :: l => by rw [sumMeasC, sumMeasC_eq_sum l, List.map_cons, List.sum_cons]

theorem sumMeasE_eq_sum : ∀ l : List EqgRep, sumMeasE l = (l.map (·.measured)).sum
  | [] => rfl
  | r :: l => by rw [sumMeasE, sumMeasE_eq_sum l, List.map_cons, List.sum_cons]

theorem sumRates_nil : sumRates [] = 0 := rfl

theorem sumRates_nonneg (l : List Emis) (h : ∀ e ∈ l, 0 ≤ e.rate) : 0 ≤ sumRates l := by
  rw [sumRates_eq_sum]; exact sum_map_nonneg _ l h

theorem measure_nonneg (mdl err r : Int) : 0 ≤ measure mdl err r := by
  unfold measure; split <;> omega

theorem measure_ne_zero (mdl err r : Int) (h : measure mdl err r ≠ 0) : mdl ≤ r := by
  unfold measure at h; split at h <;> omega

theorem measure_below (mdl err r : Int) (h : r < mdl) : measure mdl err r = 0 := by
  unfold measure; split <;> omega

theorem measure_zero_rate (mdl err r : Int) (h : r = 0) : measure mdl err r = 0 := by
  subst h; unfold measure; split <;> simp

theorem lookup_cons_self (m : Nat) (b : Bool) (l : List (Nat × Bool)) : lookup m ((m, b) :: l) = some b := by
  simp [lookup]

theorem lookup_cons_ne (m k : Nat) (b : Bool) (l : List (Nat × Bool)) (h : k ≠ m) :
    lookup m ((k, b) :: l) = lookup m l := by
  simp [lookup, h]

theorem lookup_false (m : Nat) (l : List (Nat × Bool)) (h : ∀ kb ∈ l, kb.2 = false) :
    lookup m l ≠ some true := by
  induction l with
  | nil => simp [lookup]
  | cons kb l ih =>
    simp only [lookup]
    split
    · have := h kb (List.mem_cons_self ..)
      simp [this]
    · exact ih (fun x hx => h x (List.mem_cons_of_mem _ hx))

theorem checkSpatialCov_outcome (m : Nat) (e : Emis) (r : Rolls) :
    (checkSpatialCov m r.spatial e).outcome = spatialOutcome m e r ∧
    covOf m (checkSpatialCov m r.spatial e).e = some (spatialOutcome m e r) := by
  unfold checkSpatialCov spatialOutcome
  cases h : covOf m e with
  | some b => exact ⟨rfl, h⟩
  | none => exact ⟨rfl, lookup_cons_self ..⟩

theorem checkSpatialCov_consumed (m : Nat) (roll : Bool) (e : Emis) :
    (checkSpatialCov m roll e).consumed = (covOf m e).isNone := by
  unfold checkSpatialCov
  cases covOf m e <;> rfl

theorem checkSpatialCov_stored (m : Nat) (roll b : Bool) (e : Emis) (h : covOf m e = some b) :
    checkSpatialCov m roll e = { e := e, outcome := b, consumed := false } := by
  rw [checkSpatialCov, h]

theorem checkSpatialCov_other (m m' : Nat) (roll : Bool) (e : Emis) (h : m' ≠ m) :
    covOf m (checkSpatialCov m' roll e).e = covOf m e := by
  unfold checkSpatialCov
  cases covOf m' e with
  | some b => rfl
  | none => exact lookup_cons_ne m m' roll e.cov h

theorem checkSpatialCov_frame (m : Nat) (roll : Bool) (e : Emis) :
    (checkSpatialCov m roll e).e = { e with cov := (checkSpatialCov m roll e).e.cov } := by
  unfold checkSpatialCov
  cases covOf m e <;> rfl

theorem spatialOutcome_stored (m : Nat) (e : Emis) (r : Rolls) (b : Bool) (h : covOf m e = some b) :
    spatialOutcome m e r = b := by
  rw [spatialOutcome, h]

theorem visible_iff (m s : Nat) (x : Emis × Rolls) :
    visible m s x = true ↔
      inScope s x.1 = true ∧ spatialOutcome m x.1 x.2 = true ∧ x.1.emitting = true ∧ x.2.temporal = true := by
  simp only [visible, Bool.and_eq_true, and_assoc]

theorem detectOne_vis (m s : Nat) (x : Emis × Rolls) : (detectOne m s x).vis = visible m s x := by
  unfold detectOne visible
  rw [← (checkSpatialCov_outcome m x.1 x.2).1]
  cases inScope s x.1 <;> cases h : (checkSpatialCov m x.2.spatial x.1).outcome && x.1.emitting <;> simp [h]

theorem detectOne_in_scope (m s : Nat) (x : Emis × Rolls) (h : inScope s x.1 = true) :
    (detectOne m s x).e = (checkSpatialCov m x.2.spatial x.1).e ∧
    (detectOne m s x).sRoll = (checkSpatialCov m x.2.spatial x.1).consumed := by
  simp only [detectOne, h, if_true]
  split <;> exact ⟨rfl, rfl⟩

theorem detectOne_out_of_scope (m s : Nat) (x : Emis × Rolls) (h : inScope s x.1 = false) :
    detectOne m s x = { e := x.1, vis := false, sRoll := false, tRoll := false } := by
  unfold detectOne; simp [h]

theorem detectOne_frame (m s : Nat) (x : Emis × Rolls) :
    (detectOne m s x).e = { x.1 with cov := (detectOne m s x).e.cov } := by
  cases h : inScope s x.1 with
  | true => rw [(detectOne_in_scope m s x h).1]; exact checkSpatialCov_frame ..
  | false => rw [detectOne_out_of_scope m s x h]

theorem detectOne_stores (m s : Nat) (x : Emis × Rolls) (h : inScope s x.1 = true) :
    covOf m (detectOne m s x).e = some (spatialOutcome m x.1 x.2) ∧
    (detectOne m s x).sRoll = (covOf m x.1).isNone := by
  rw [(detectOne_in_scope m s x h).1, (detectOne_in_scope m s x h).2]
  exact ⟨(checkSpatialCov_outcome m x.1 x.2).2, checkSpatialCov_consumed ..⟩

theorem detectOne_other (m m' s : Nat) (x : Emis × Rolls) (h : m' ≠ m) :
    covOf m (detectOne m' s x).e = covOf m x.1 := by
  cases hs : inScope s x.1 with
  | true => rw [(detectOne_in_scope m' s x hs).1]; exact checkSpatialCov_other m m' _ _ h
  | false => rw [detectOne_out_of_scope m' s x hs]

theorem detectOne_cov (m s : Nat) (x : Emis × Rolls) :
    ∀ kb ∈ (detectOne m s x).e.cov, kb ∈ x.1.cov ∨ kb = (m, x.2.spatial) := by
  intro kb hkb
  cases h : inScope s x.1 with
  | false => rw [detectOne_out_of_scope m s x h] at hkb; exact Or.inl hkb
  | true =>
    rw [(detectOne_in_scope m s x h).1, checkSpatialCov] at hkb
    split at hkb
    · exact Or.inl hkb
    · exact (List.mem_cons.1 hkb).symm

theorem visList_nil : visList [] = [] := rfl

theorem visList_cons (o : Obs) (os : List Obs) :
    visList (o :: os) = if o.vis then o.e :: visList os else visList os := by
  unfold visList
  by_cases h : o.vis = true <;> simp [h]

theorem visList_append (a b : List Obs) : visList (a ++ b) = visList a ++ visList b := by
  unfold visList; simp

theorem detect_append (m s : Nat) (a b : List (Emis × Rolls)) :
    detect m s (a ++ b) = detect m s a ++ detect m s b := by
  unfold detect; simp

theorem detect_cons (m s : Nat) (x : Emis × Rolls) (xs : List (Emis × Rolls)) :
    detect m s (x :: xs) = detectOne m s x :: detect m s xs := rfl

/-- the visible list of a survey: its visible emissions, each as the survey leaves it -/
theorem visList_detect (m s : Nat) (xs : List (Emis × Rolls)) :
    visList (detect m s xs) = (xs.filter (visible m s)).map (fun x => (detectOne m s x).e) := by
  have : (fun o : Obs => o.vis) ∘ detectOne m s = visible m s := funext (detectOne_vis m s)
  rw [visList, detect, List.filter_map, this, List.map_map]
  rfl

theorem visList_detect_invisible (m s : Nat) (pre post : List (Emis × Rolls)) (x : Emis × Rolls)
    (h : visible m s x = false) :
    visList (detect m s (pre ++ x :: post)) = visList (detect m s (pre ++ post)) := by
  simp only [visList_detect, List.filter_append, List.filter_cons, h, Bool.false_eq_true, if_false]

theorem visList_detect_none (m s : Nat) (xs : List (Emis × Rolls))
    (h : ∀ x ∈ xs, visible m s x = false) : visList (detect m s xs) = [] := by
  rw [visList_detect, List.filter_eq_nil_iff.2 fun x hx => by simp [h x hx]]
  rfl

theorem mem_visList_detect (m s : Nat) (xs : List (Emis × Rolls)) (e : Emis)
    (h : e ∈ visList (detect m s xs)) :
    ∃ x ∈ xs, visible m s x = true ∧ e.id = x.1.id ∧ e.rate = x.1.rate ∧ e.site = x.1.site ∧
      e.eqg = x.1.eqg ∧ e.comp = x.1.comp ∧ covOf m e = some true := by
  rw [visList_detect, List.mem_map] at h
  obtain ⟨x, hx, rfl⟩ := h
  obtain ⟨hx, hv⟩ := List.mem_filter.1 hx
  obtain ⟨hsc, hso, _⟩ := (visible_iff m s x).1 hv
  refine ⟨x, hx, hv, ?_, ?_, ?_, ?_, ?_, hso ▸ (detectOne_stores m s x hsc).1⟩ <;>
    rw [detectOne_frame]

/-- total true rate of everything at the site, visible or not -/
def totalRate (xs : List (Emis × Rolls)) : Int := sumRates (xs.map (·.1))

theorem rate_filter_le_total (p : Emis → Bool) (m s : Nat) (xs : List (Emis × Rolls))
    (h : ∀ x ∈ xs, 0 ≤ x.1.rate) :
    sumRates ((visList (detect m s xs)).filter p) ≤ totalRate xs := by
  have hr : (fun e : Emis => e.rate) ∘ (fun x => (detectOne m s x).e) = fun x => x.1.rate :=
    funext fun x => show (detectOne m s x).e.rate = x.1.rate by rw [detectOne_frame]
  rw [totalRate, sumRates_eq_sum, sumRates_eq_sum, visList_detect, List.filter_map, List.filter_filter,
    List.map_map, List.map_map, hr]
  exact sum_map_filter_le _ _ xs h

theorem report_component_measured (layout : List (Nat × List (Nat × Int))) (mdl : Int) (s : Nat) (vis : List Emis) :
    (report (.component layout) mdl s vis).measured = ((layout.map (eqgRepC vis mdl s)).map (·.measured)).sum :=
  sumMeasE_eq_sum _

theorem report_eqg_measured (layout : List (Nat × Int)) (mdl : Int) (s : Nat) (vis : List Emis) :
    (report (.eqg layout) mdl s vis).measured = ((layout.map (eqgRepG vis mdl s)).map (·.measured)).sum :=
  sumMeasE_eq_sum _

theorem eqgRepC_measured (vis : List Emis) (mdl : Int) (s : Nat) (ge : Nat × List (Nat × Int)) :
    (eqgRepC vis mdl s ge).measured = ((eqgRepC vis mdl s ge).comps.map (·.measured)).sum :=
  sumMeasC_eq_sum _

theorem eqgRepC_measured_nonneg (vis : List Emis) (mdl : Int) (s : Nat) (ge : Nat × List (Nat × Int)) :
    0 ≤ (eqgRepC vis mdl s ge).measured := by
  rw [eqgRepC_measured]
  refine sum_map_nonneg _ _ fun r hr => ?_
  obtain ⟨ce, _, rfl⟩ := List.mem_map.1 hr
  exact measure_nonneg ..

theorem tagTargets_eq_nil (rep : SiteRep) (h : ∀ er ∈ rep.eqgs, ∀ cr ∈ er.comps, cr.measured = 0) :
    tagTargets rep = [] := by
  simp only [tagTargets, List.flatMap_eq_nil_iff, List.map_eq_nil_iff, List.filter_eq_nil_iff, decide_eq_true_eq]
  intro er her cr hcr
  rw [h er her cr hcr]
  exact Int.lt_irrefl 0

theorem mem_tagTargets (rep : SiteRep) (g c : Nat) (h : (g, c) ∈ tagTargets rep) :
    ∃ er ∈ rep.eqgs, ∃ cr ∈ er.comps, er.eqg = g ∧ cr.comp = c ∧ cr.measured > 0 := by
  unfold tagTargets at h
  simp only [List.mem_flatMap, List.mem_map, List.mem_filter, decide_eq_true_eq, Prod.mk.injEq] at h
  obtain ⟨er, her, cr, ⟨hcr, hpos⟩, hg, hc⟩ := h
  exact ⟨er, her, cr, hcr, hg, hc, hpos⟩

theorem tagTargets_site (sv : SurveyIn) (err : Int) (h : sv.cfg = .site err) :
    tagTargets (surveyOf sv) = [] := by
  simp [surveyOf, survey, report, tagTargets, h]

end LdarModel.Sensor
