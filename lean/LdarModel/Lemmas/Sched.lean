import LdarModel.Model.Planner
/-
Lemmas for the schedule model: the sorted-list queue (`insertE`, `put`, `takeN`, batches of `put`s);
the state invariant `Inv` of a method's schedule and its preservation by every operation.  Each half
of a day is described by the entries it leaves in the queue and the planner behind each
(`request_entry`, `finish_entry`); the follow-up operations are one request more (`inv_put`) or one
less (`inv_drop`).
-/
namespace LdarModel.Sched


/-! ### order on entries -/

theorem keyLt_trans {a b c : Entry} (h1 : keyLt a b) (h2 : keyLt b c) : keyLt a c := by
  unfold keyLt at *; omega

theorem keyLt_asymm {a b : Entry} (h1 : keyLt a b) : ¬ keyLt b a := by
  unfold keyLt at *; omega

theorem keyLt_total {a b : Entry} (h : a.fifo ≠ b.fifo) : keyLt a b ∨ keyLt b a := by
  unfold keyLt; omega

/-! ### insertion -/

theorem insertE_perm (e : Entry) (l : List Entry) : (insertE e l).Perm (e :: l) := by
  induction l with
  | nil => simp [insertE]
  | cons x xs ih =>
    unfold insertE
    split
    · exact List.Perm.refl _
    · exact (List.Perm.cons x ih).trans (List.Perm.swap e x xs)

theorem mem_insertE {e x : Entry} {l : List Entry} : x ∈ insertE e l ↔ x = e ∨ x ∈ l := by
  rw [(insertE_perm e l).mem_iff]; simp

theorem insertE_sorted (e : Entry) (l : List Entry) (hl : l.Pairwise keyLt)
    (hd : ∀ x ∈ l, x.fifo ≠ e.fifo) : (insertE e l).Pairwise keyLt := by
  induction l with
  | nil => simp [insertE]
  | cons x xs ih =>
    rw [List.pairwise_cons] at hl
    unfold insertE
    split
    · rename_i hlt
      refine List.pairwise_cons.2 ⟨fun y hy => ?_, List.pairwise_cons.2 hl⟩
      rcases List.mem_cons.1 hy with rfl | hy
      · exact hlt
      · exact keyLt_trans hlt (hl.1 y hy)
    · rename_i hnlt
      -- counters differ, so one of the two comes first
      have hxe : keyLt x e := (keyLt_total (hd x (by simp))).resolve_right hnlt
      refine List.pairwise_cons.2 ⟨fun y hy => ?_, ih hl.2 (fun y hy => hd y (by simp [hy]))⟩
      rcases mem_insertE.1 hy with rfl | hy
      · exact hxe
      · exact hl.1 y hy

/-! ### queue well-formedness -/

/-- entries sorted by the tuple order, counters below the next fresh one -/
def QWF (q : Queue) : Prop := q.entries.Pairwise keyLt ∧ ∀ e ∈ q.entries, e.fifo < q.next

section
variable (q : Queue) (n : Nat) (items : List (Nat × Int × Nat))

theorem qwf_empty : QWF Queue.empty := by simp [QWF, Queue.empty]

theorem qwf_put (h : QWF q) (c : Nat) (r : Int) (i : Nat) : QWF (q.put c r i) := by
  refine ⟨insertE_sorted _ _ h.1 fun x hx => Nat.ne_of_lt (h.2 x hx), fun e he => ?_⟩
  rcases mem_insertE.1 he with rfl | he
  · exact Nat.lt_succ_self _
  · exact Nat.lt_succ_of_lt (h.2 e he)

theorem put_perm (c : Nat) (r : Int) (i : Nat) :
    (q.put c r i).entries.Perm ({ cls := c, rate := r, fifo := q.next, site := i } :: q.entries) :=
  insertE_perm _ _

theorem takeN_eq (q : Queue) :
    q.takeN n = (q.entries.take n, { q with entries := q.entries.drop n }) := by
  induction n generalizing q with
  | zero => simp [Queue.takeN]
  | succ n ih =>
    unfold Queue.takeN Queue.get
    cases hq : q.entries with
    | nil => simp; cases q; simp_all
    | cons e es => simp [ih]

theorem qwf_drop (h : QWF q) (n : Nat) : QWF { q with entries := q.entries.drop n } := by
  unfold QWF at *
  exact ⟨h.1.sublist (List.drop_sublist n _), fun e he => h.2 e (List.mem_of_mem_drop he)⟩

/-! ### a batch of puts -/

/-- items are (class, rate, site) -/
def putAll (q : Queue) : List (Nat × Int × Nat) → Queue
  | [] => q
  | x :: xs => putAll (q.put x.1 x.2.1 x.2.2) xs

/-- the entries created by a batch of puts starting at counter `n` -/
def stamp (n : Nat) : List (Nat × Int × Nat) → List Entry
  | [] => []
  | x :: xs => { cls := x.1, rate := x.2.1, fifo := n, site := x.2.2 } :: stamp (n + 1) xs

theorem stamp_sites :
    (stamp n items).map (·.site) = items.map (·.2.2) := by
  induction items generalizing n with
  | nil => rfl
  | cons x xs ih => simp [stamp, ih]

theorem mem_stamp {n : Nat} {items : List (Nat × Int × Nat)} {e : Entry} (he : e ∈ stamp n items) :
    (e.cls, e.rate, e.site) ∈ items ∧ n ≤ e.fifo ∧ e.fifo < n + items.length := by
  induction items generalizing n with
  | nil => simp [stamp] at he
  | cons x xs ih =>
    simp only [stamp, List.mem_cons] at he
    rcases he with rfl | he
    · simp
    · have := ih he
      simp only [List.length_cons, List.mem_cons]
      exact ⟨.inr this.1, by omega, by omega⟩

theorem stamp_fifo_lt (n : Nat) (items : List (Nat × Int × Nat)) :
    ∀ e ∈ stamp n items, e.fifo < n + items.length :=
  fun _ he => (mem_stamp he).2.2

theorem stamp_increasing :
    (stamp n items).Pairwise (fun a b => a.fifo < b.fifo) := by
  induction items generalizing n with
  | nil => simp [stamp]
  | cons x xs ih =>
    simp only [stamp, List.pairwise_cons]
    exact ⟨fun e he => (mem_stamp he).2.1, ih (n + 1)⟩

theorem putAll_spec (h : QWF q) (items : List (Nat × Int × Nat)) :
    QWF (putAll q items) ∧ (putAll q items).entries.Perm (q.entries ++ stamp q.next items)
      ∧ (putAll q items).next = q.next + items.length := by
  induction items generalizing q with
  | nil => simp [putAll, stamp, h]
  | cons x xs ih =>
    obtain ⟨h1, h2, h3⟩ := ih (q.put x.1 x.2.1 x.2.2) (qwf_put q h _ _ _)
    refine ⟨h1, ?_, ?_⟩
    · refine h2.trans (((put_perm q x.1 x.2.1 x.2.2).append_right _).trans ?_)
      exact List.perm_middle.symm
    · simp only [putAll, List.length_cons, h3]
      show q.next + 1 + xs.length = _
      omega

theorem putAll_sites (h : QWF q) (items : List (Nat × Int × Nat)) :
    (putAll q items).sites.Perm (q.sites ++ items.map (·.2.2)) := by
  have := (putAll_spec q h items).2.1
  unfold Queue.sites
  have := this.map (·.site)
  simpa [stamp_sites] using this

theorem mem_putAll {q : Queue} (h : QWF q) {items : List (Nat × Int × Nat)} {e : Entry} :
    e ∈ (putAll q items).entries ↔ e ∈ q.entries ∨ e ∈ stamp q.next items := by
  rw [(putAll_spec q h items).2.1.mem_iff, List.mem_append]

/-! ### folds of the model as batches -/

theorem foldl_put_eq {α : Type} (f : α → Nat × Int × Nat) (l : List α) (q : Queue) :
    l.foldl (fun q a => q.put (f a).1 (f a).2.1 (f a).2.2) q = putAll q (l.map f) := by
  induction l generalizing q with
  | nil => rfl
  | cons a l ih => simp [putAll, ih]

/-- the (class, rate, site) items that `update` puts back for the work plan `keys` -/
def requeueItems (k : Kind) (pl : Nat → PlannerS) (keys : List Nat) : List (Nat × Int × Nat) :=
  (keys.filter (fun i => !isComplete (pl i))).map (fun i => (requeueClass (pl i), rateOf k (pl i), i))

theorem foldl_requeue_eq (k : Kind) (pl : Nat → PlannerS) (keys : List Nat) (q : Queue) :
    keys.foldl (requeueOne k pl) q = putAll q (requeueItems k pl keys) := by
  induction keys generalizing q with
  | nil => rfl
  | cons i is ih =>
    unfold requeueItems at *
    simp only [List.foldl_cons, requeueOne, List.filter_cons]
    cases h : isComplete (pl i) <;> simp [putAll, ih]

theorem of_mem_requeueItems {k : Kind} {pl : Nat → PlannerS} {keys : List Nat} {x : Nat × Int × Nat}
    (h : x ∈ requeueItems k pl keys) :
    x.2.2 ∈ keys ∧ isComplete (pl x.2.2) = false ∧ x.1 = requeueClass (pl x.2.2) ∧
    x.2.1 = rateOf k (pl x.2.2) := by
  obtain ⟨i, hi, rfl⟩ := List.mem_map.1 h
  rw [List.mem_filter] at hi
  exact ⟨hi.1, by simpa using hi.2, rfl, rfl⟩

theorem requeueItems_sites (k : Kind) (pl : Nat → PlannerS) (keys : List Nat) :
    (requeueItems k pl keys).map (·.2.2) = keys.filter (fun i => !isComplete (pl i)) := by
  simp [requeueItems, List.map_map, Function.comp_def]

theorem dictKeys_nodup (l : List Nat) (h : l.Nodup) : dictKeys l = l := by
  induction l with
  | nil => rfl
  | cons x xs ih =>
    rw [List.nodup_cons] at h
    simp only [dictKeys, ih h.2]
    congr 1
    rw [List.filter_eq_self]
    intro a ha
    simp only [decide_eq_true_eq]
    intro hax
    exact h.1 (hax ▸ ha)

/-! ### the state invariant -/

structure Inv (s : State) : Prop where
  qwf : QWF s.q
  nodup : s.q.sites.Nodup
  flag : ∀ i, (s.pl i).queued = true ↔ i ∈ s.q.sites
  cls1 : ∀ e ∈ s.q.entries, (e.cls = prioUnfinished ↔ inProgress (s.pl e.site) = true)
  notComplete : ∀ i, isComplete (s.pl i) = false
  idle : ∀ i, (s.pl i).queued = false → (s.pl i).rep = none

end

variable (c : Cfg) (d : DayIn) (dt : Date) (s s1 : State)

theorem inv_init : Inv init := by
  refine ⟨qwf_empty, ?_, ?_, ?_, ?_, ?_⟩ <;> simp [init, Queue.sites, isComplete]

theorem mem_issued {c : Cfg} {dt : Date} {s : State} {i : Nat} :
    i ∈ issued c dt s ↔ i ∈ c.sites ∧ guardK c.kind (c.P i) dt (s.pl i) = true := List.mem_filter

theorem guardRoutine_iff (p : PlannerP) (dt : Date) (ps : PlannerS) :
    guardRoutine p dt ps = true ↔
      dt.y ∈ p.depYears ∧ dt.m ∈ p.months ∧ ps.queued = false ∧ done ps dt.y < required p dt.y ∧
      ∃ pd, p.plan[done ps dt.y]? = some pd ∧ mdLe pd (dt.m, dt.d) := by
  unfold guardRoutine
  cases p.plan[done ps dt.y]? <;> simp [and_assoc]

theorem guardK_calendar {k : Kind} {p : PlannerP} {dt : Date} {ps : PlannerS}
    (h : guardK k p dt ps = true) : dt.y ∈ p.depYears ∧ dt.m ∈ p.months ∧ ps.queued = false := by
  cases k
  case stationary =>
    simp only [guardK, guardStationary, Bool.and_eq_true, decide_eq_true_eq, Bool.not_eq_true'] at h
    exact ⟨h.1.1.1, h.1.1.2, h.1.2⟩
  all_goals
    have h' := (guardRoutine_iff p dt ps).1 h
    exact ⟨h'.1, h'.2.1, h'.2.2.1⟩

theorem guardK_of_required_zero {p : PlannerP} {dt : Date} (h0 : required p dt.y = 0) (k : Kind)
    (ps : PlannerS) : guardK k p dt ps = false := by
  cases k <;>
    simp only [guardK, guardRoutine, guardStationary, h0, Nat.not_lt_zero, Nat.lt_irrefl, decide_false,
      Bool.and_false, Bool.false_and]

theorem required_eq {p : PlannerP} {y : Nat} (h : y ∈ p.depYears ∧ y ∈ p.simYears) :
    required p y = p.rs := by
  unfold required; simp [h.1, h.2]

theorem issued_not_queued :
    ∀ i ∈ issued c dt s, (s.pl i).queued = false :=
  fun _ hi => (guardK_calendar (mem_issued.1 hi).2).2.2

theorem mem_sites_iff (q : Queue) (i : Nat) : i ∈ q.sites ↔ ∃ e ∈ q.entries, e.site = i := by
  unfold Queue.sites; simp

/-! ### the request phase -/

theorem request_q :
    (requestPhase c dt s).q = putAll s.q ((issued c dt s).map (fun i => (prioNew, (0 : Int), i))) :=
  foldl_put_eq (fun i => (prioNew, (0 : Int), i)) (issued c dt s) s.q

theorem request_sites (h : QWF s.q) :
    (requestPhase c dt s).q.sites.Perm (s.q.sites ++ issued c dt s) := by
  rw [request_q]
  simpa [List.map_map, Function.comp_def] using
    putAll_sites s.q h ((issued c dt s).map (fun i => (prioNew, (0 : Int), i)))

theorem request_entry {c : Cfg} {dt : Date} {s : State} (h : QWF s.q) {e : Entry}
    (he : e ∈ (requestPhase c dt s).q.entries) :
    e ∈ s.q.entries ∨ (e.cls = prioNew ∧ e.rate = 0 ∧ e.site ∈ issued c dt s) := by
  rw [request_q, mem_putAll h] at he
  refine he.imp_right fun he => ?_
  obtain ⟨i, hi, hieq⟩ := List.mem_map.1 (mem_stamp he).1
  simp only [Prod.mk.injEq] at hieq
  exact ⟨hieq.1.symm, hieq.2.1.symm, hieq.2.2 ▸ hi⟩

theorem request_pl (i : Nat) :
    (requestPhase c dt s).pl i = { s.pl i with queued := (s.pl i).queued || decide (i ∈ issued c dt s) } := by
  unfold requestPhase
  by_cases h : i ∈ issued c dt s <;> simp [h]

theorem inv_request (hc : c.sites.Nodup) (dt : Date) (s : State) (h : Inv s) :
    Inv (requestPhase c dt s) := by
  have hnq := issued_not_queued c dt s
  have hsites := request_sites c dt s h.qwf
  refine ⟨by rw [request_q]; exact (putAll_spec _ h.qwf _).1, ?_, ?_, ?_, ?_, ?_⟩
  · rw [hsites.nodup_iff, List.nodup_append]
    refine ⟨h.nodup, hc.sublist List.filter_sublist, fun a ha b hb hab => ?_⟩
    subst hab
    have := (h.flag a).2 ha
    rw [hnq a hb] at this
    exact Bool.noConfusion this
  · intro i
    rw [request_pl, hsites.mem_iff, List.mem_append, ← h.flag i]
    simp
  · intro e he
    rw [request_pl]
    rcases request_entry h.qwf he with he | ⟨h1, _, hi⟩
    · exact h.cls1 e he
    · simp [h1, prioNew, prioUnfinished, inProgress, h.idle _ (hnq _ hi)]
  · intro i; rw [request_pl]; exact h.notComplete i
  · intro i hq
    rw [request_pl] at hq ⊢
    exact h.idle i (by simpa using (Bool.or_eq_false_iff.1 hq).1)

/-! ### the second half of a day (take → deploy → update) in explicit form -/

def planKeys (c : Cfg) (s1 : State) : List Nat :=
  dictKeys ((s1.q.entries.take (takeCount c s1.q)).map (·.site))

def waiting (c : Cfg) (s1 : State) : Queue :=
  { s1.q with entries := s1.q.entries.drop (takeCount c s1.q) }

def deployed (c : Cfg) (d : DayIn) (s1 : State) : Nat → PlannerS :=
  fun i => if i ∈ planKeys c s1 then applyOutcome (c.P i) (d.out i) (s1.pl i) else s1.pl i

def finishDay (c : Cfg) (d : DayIn) (s1 : State) : State :=
  { q := putAll (waiting c s1) (requeueItems c.kind (deployed c d s1) (planKeys c s1)),
    pl := fun i => if i ∈ planKeys c s1 ∧ isComplete (deployed c d s1 i) = true
                   then finish d.date.y (deployed c d s1 i) else deployed c d s1 i,
    crashed := s1.crashed ||
      (planKeys c s1).any (fun i => isComplete (deployed c d s1 i) && !decide (d.date.y ∈ (c.P i).simYears) &&
        decide (c.kind ≠ .followup)) }

theorem scheduleDay_eq :
    scheduleDay c d s = finishDay c d (requestPhase c d.date s) := by
  simp only [scheduleDay, dayTrace, takeN_eq, foldl_requeue_eq]
  rfl

theorem dayTrace_keys :
    (dayTrace c d s).keys = planKeys c (requestPhase c d.date s) := by
  simp only [dayTrace, takeN_eq]
  rfl

theorem dayTrace_afterDeploy :
    (dayTrace c d s).afterDeploy = deployed c d (requestPhase c d.date s) := by
  simp only [dayTrace, takeN_eq]
  rfl

theorem dayTrace_remaining :
    (dayTrace c d s).remaining = waiting c (requestPhase c d.date s) := by
  simp only [dayTrace, takeN_eq]
  rfl

theorem dayTrace_taken :
    (dayTrace c d s).taken =
      (requestPhase c d.date s).q.entries.take (takeCount c (requestPhase c d.date s).q) := by
  simp only [dayTrace, takeN_eq]

/-- with distinct outstanding requests the work plan is the list of taken sites -/
theorem planKeys_eq (h : Inv s1) :
    planKeys c s1 = (s1.q.entries.take (takeCount c s1.q)).map (·.site) := by
  unfold planKeys
  apply dictKeys_nodup
  have : ((s1.q.entries.take (takeCount c s1.q)).map (·.site)).Sublist s1.q.sites :=
    (List.take_sublist _ _).map _
  exact h.nodup.sublist this

theorem sites_split (h : Inv s1) :
    s1.q.sites = planKeys c s1 ++ (waiting c s1).sites := by
  rw [planKeys_eq c s1 h]
  unfold waiting Queue.sites
  rw [← List.map_append, List.take_append_drop]

theorem applyOutcome_frame (p : PlannerP) (o : Outcome) (x : PlannerS) :
    (applyOutcome p o x).queued = x.queued ∧ (applyOutcome p o x).log = x.log := by
  unfold applyOutcome
  cases o <;> exact ⟨rfl, rfl⟩

theorem isComplete_applyOutcome (p : PlannerP) (o : Outcome) (x : PlannerS) (hx : isComplete x = false) :
    isComplete (applyOutcome p o x) = true ↔ o = .completed := by
  unfold applyOutcome isComplete at *
  cases o <;> cases hr : x.rep <;> simp_all

theorem deployed_planned {c : Cfg} {s1 : State} {i : Nat} (d : DayIn) (hi : i ∈ planKeys c s1) :
    deployed c d s1 i = applyOutcome (c.P i) (d.out i) (s1.pl i) := if_pos hi

theorem deployed_unplanned {c : Cfg} {s1 : State} {i : Nat} (d : DayIn) (hi : i ∉ planKeys c s1) :
    deployed c d s1 i = s1.pl i := if_neg hi

theorem deployed_frame (i : Nat) :
    (deployed c d s1 i).queued = (s1.pl i).queued ∧ (deployed c d s1 i).log = (s1.pl i).log := by
  unfold deployed
  split
  · exact applyOutcome_frame _ _ _
  · exact ⟨rfl, rfl⟩

theorem plan_waiting (h : Inv s1) :
    (planKeys c s1).Nodup ∧ (waiting c s1).sites.Nodup ∧
    (∀ i ∈ planKeys c s1, i ∉ (waiting c s1).sites) ∧
    ∀ i, (s1.pl i).queued = true ↔ i ∈ planKeys c s1 ∨ i ∈ (waiting c s1).sites := by
  have hnd := h.nodup
  rw [sites_split c s1 h, List.nodup_append] at hnd
  refine ⟨hnd.1, hnd.2.1, fun i a b => hnd.2.2 i a i b rfl, fun i => ?_⟩
  rw [h.flag i, sites_split c s1 h, List.mem_append]

theorem finish_sites (h : Inv s1) :
    (finishDay c d s1).q.sites.Perm
      ((waiting c s1).sites ++ (planKeys c s1).filter (fun i => !isComplete (deployed c d s1 i))) := by
  have := putAll_sites (waiting c s1) (qwf_drop s1.q h.qwf _)
    (requeueItems c.kind (deployed c d s1) (planKeys c s1))
  rwa [requeueItems_sites] at this

theorem finish_entry {c : Cfg} {d : DayIn} {s1 : State} (h : Inv s1) {e : Entry}
    (he : e ∈ (finishDay c d s1).q.entries) :
    (e ∈ s1.q.entries ∧ (finishDay c d s1).pl e.site = s1.pl e.site) ∨
    (e.site ∈ planKeys c s1 ∧
      (finishDay c d s1).pl e.site = applyOutcome (c.P e.site) (d.out e.site) (s1.pl e.site) ∧
      e.cls = requeueClass ((finishDay c d s1).pl e.site) ∧
      e.rate = rateOf c.kind ((finishDay c d s1).pl e.site)) := by
  have hpl : (finishDay c d s1).pl e.site =
      if e.site ∈ planKeys c s1 ∧ isComplete (deployed c d s1 e.site) = true
      then finish d.date.y (deployed c d s1 e.site) else deployed c d s1 e.site := rfl
  rcases (mem_putAll (qwf_drop s1.q h.qwf _)).1 he with hw | hn
  · have hnk : e.site ∉ planKeys c s1 := fun hk =>
      (plan_waiting c s1 h).2.2.1 _ hk ((mem_sites_iff _ _).2 ⟨e, hw, rfl⟩)
    exact .inl ⟨List.mem_of_mem_drop hw, by rw [hpl, if_neg (fun h => hnk h.1), deployed_unplanned d hnk]⟩
  · obtain ⟨hk, hnc, h1, h2⟩ := of_mem_requeueItems (mem_stamp hn).1
    rw [hpl, if_neg (fun h => by simp [hnc] at h)]
    exact .inr ⟨hk, deployed_planned d hk, h1, h2⟩

theorem inv_finishDay (h : Inv s1) : Inv (finishDay c d s1) := by
  obtain ⟨hpn, hwn, hdisj, hflag⟩ := plan_waiting c s1 h
  have hsites := finish_sites c d s1 h
  have hq := fun i => (deployed_frame c d s1 i).1
  have hpl : ∀ i, (finishDay c d s1).pl i =
      if i ∈ planKeys c s1 ∧ isComplete (deployed c d s1 i) = true then finish d.date.y (deployed c d s1 i)
      else deployed c d s1 i := fun _ => rfl
  refine ⟨(putAll_spec _ (qwf_drop s1.q h.qwf _) _).1, ?_, ?_, ?_, ?_, ?_⟩
  · rw [hsites.nodup_iff, List.nodup_append]
    exact ⟨hwn, hpn.sublist List.filter_sublist,
      fun a ha b hb hab => hdisj b (List.mem_filter.1 hb).1 (hab ▸ ha)⟩
  · intro i
    rw [hsites.mem_iff, List.mem_append, List.mem_filter, hpl]
    by_cases hk : i ∈ planKeys c s1
    · cases hcpl : isComplete (deployed c d s1 i)
      · simp [hk, hq, (hflag i).2 (Or.inl hk)]
      · simp [hk, finish, hdisj i hk]
    · simp [hk, hq, hflag i]
  · intro e he
    rcases finish_entry h he with ⟨he, hp⟩ | ⟨_, _, h1, _⟩
    · rw [hp]; exact h.cls1 e he
    · rw [h1]
      unfold requeueClass
      cases inProgress ((finishDay c d s1).pl e.site) <;> simp [prioUnfinished, prioUnattended]
  · intro i
    rw [hpl]
    split
    · simp [finish, isComplete]
    · rename_i hn
      by_cases hk : i ∈ planKeys c s1
      · cases hcpl : isComplete (deployed c d s1 i)
        · rfl
        · exact absurd ⟨hk, hcpl⟩ hn
      · rw [deployed_unplanned d hk]; exact h.notComplete i
  · intro i
    rw [hpl]
    split
    · intro _; rfl
    · rw [hq]
      intro hqf
      by_cases hk : i ∈ planKeys c s1
      · have := (hflag i).2 (Or.inl hk)
        rw [hqf] at this
        exact Bool.noConfusion this
      · rw [deployed_unplanned d hk]; exact h.idle i hqf

theorem inv_scheduleDay (hc : c.sites.Nodup) (d : DayIn) (s : State) (h : Inv s) :
    Inv (scheduleDay c d s) := by
  rw [scheduleDay_eq]
  exact inv_finishDay c d _ (inv_request c hc d.date s h)

/-! ### follow-up operations -/

theorem Inv.congr {s s' : State} (h : Inv s) (hq : s'.q = s.q) (hpl : ∀ i, s'.pl i = s.pl i) : Inv s' := by
  obtain ⟨q, pl, cr⟩ := s'
  obtain rfl : q = s.q := hq
  obtain rfl : pl = s.pl := funext hpl
  exact ⟨h.qwf, h.nodup, h.flag, h.cls1, h.notComplete, h.idle⟩

theorem inv_put {s : State} (h : Inv s) {site : Nat} (hns : site ∉ s.q.sites) {p : PlannerS} {cls : Nat}
    (rate : Int) (hq : p.queued = true) (hcls : cls = prioUnfinished ↔ inProgress p = true)
    (hnc : isComplete p = false) :
    Inv { s with q := s.q.put cls rate site, pl := fun i => if i = site then p else s.pl i } := by
  have hperm := put_perm s.q cls rate site
  have hsites : (s.q.put cls rate site).sites.Perm (site :: s.q.sites) := by
    simpa [Queue.sites] using hperm.map (·.site)
  refine ⟨qwf_put _ h.qwf _ _ _, ?_, ?_, ?_, ?_, ?_⟩
  · rw [hsites.nodup_iff, List.nodup_cons]; exact ⟨hns, h.nodup⟩
  · intro i
    simp only
    rw [hsites.mem_iff, List.mem_cons]
    by_cases hi : i = site
    · simp [hi, hq]
    · simp [hi, h.flag i]
  · intro e he
    simp only
    rcases List.mem_cons.1 (hperm.mem_iff.1 he) with rfl | he'
    · simpa using hcls
    · have hne : e.site ≠ site := fun heq => hns ((mem_sites_iff _ _).2 ⟨e, he', heq⟩)
      simp only [hne, if_false]
      exact h.cls1 e he'
  · intro i
    simp only
    split
    · exact hnc
    · exact h.notComplete i
  · intro i
    simp only
    split
    · simp [hq]
    · exact h.idle i

theorem inv_fuAdd (cls site : Nat) (rate : Int) (s : State) (h : Inv s)
    (hq : (s.pl site).queued = false) (hc : cls ≠ prioUnfinished) : Inv (fuAdd cls site rate s) := by
  have hns : site ∉ s.q.sites := fun hin => by
    have := (h.flag site).2 hin
    rw [hq] at this
    exact Bool.noConfusion this
  exact inv_put h hns rate rfl (by simpa [effClass, inProgress] using hc) rfl

/-- the queue rebuilt by `get_plan_from_queue` -/
theorem extract_spec (q : Queue) (site : Nat) :
    QWF (q.extract site).2 ∧ (q.extract site).2.sites.Perm (q.sites.filter (· ≠ site)) ∧
    (∀ e' ∈ (q.extract site).2.entries, ∃ e ∈ q.entries, e.site ≠ site ∧ e'.cls = e.cls ∧ e'.rate = e.rate
        ∧ e'.site = e.site) ∧
    ((q.extract site).1 = none ↔ site ∉ q.sites) := by
  have hfold := foldl_put_eq (fun e : Entry => (e.cls, e.rate, e.site))
  unfold Queue.extract
  simp only [hfold]
  have hspec := putAll_spec Queue.empty qwf_empty
    ((q.entries.filter (fun e => e.site ≠ site)).map (fun e => (e.cls, e.rate, e.site)))
  have hsites := putAll_sites Queue.empty qwf_empty
    ((q.entries.filter (fun e => e.site ≠ site)).map (fun e => (e.cls, e.rate, e.site)))
  refine ⟨hspec.1, ?_, ?_, ?_⟩
  · refine hsites.trans ?_
    simp only [Queue.empty, Queue.sites, List.map_nil, List.nil_append, List.map_map, Function.comp_def]
    rw [List.filter_map]
    exact List.Perm.refl _
  · intro e' he'
    rcases (mem_putAll qwf_empty).1 he' with h | h
    · simp [Queue.empty] at h
    · obtain ⟨e, he, heq⟩ := List.mem_map.1 (mem_stamp h).1
      simp only [Prod.mk.injEq] at heq
      rw [List.mem_filter] at he
      exact ⟨e, he.1, by simpa using he.2, heq.1.symm, heq.2.1.symm, heq.2.2.symm⟩
  · rw [List.getLast?_eq_none_iff, List.filter_eq_nil_iff, mem_sites_iff]
    simp

theorem inv_drop {s : State} (h : Inv s) (site : Nat) {p : PlannerS} (hq : p.queued = false)
    (hr : p.rep = none) :
    Inv { s with q := (s.q.extract site).2, pl := fun i => if i = site then p else s.pl i } ∧
    site ∉ (s.q.extract site).2.sites := by
  obtain ⟨hqwf, hsites, hent, _⟩ := extract_spec s.q site
  have hmemf : ∀ i, i ∈ (s.q.extract site).2.sites ↔ (i ∈ s.q.sites ∧ i ≠ site) := by
    intro i; rw [hsites.mem_iff, List.mem_filter]; simp
  refine ⟨⟨hqwf, ?_, ?_, ?_, ?_, ?_⟩, fun hm => ((hmemf site).1 hm).2 rfl⟩
  · rw [hsites.nodup_iff]; exact h.nodup.sublist List.filter_sublist
  · intro i
    simp only
    rw [hmemf]
    by_cases hi : i = site
    · simp [hi, hq]
    · simp [hi, h.flag i]
  · intro e' he'
    obtain ⟨e, he, hne, h1, _, h3⟩ := hent e' he'
    simp only
    rw [h1, h3, if_neg hne]
    exact h.cls1 e he
  · intro i
    simp only
    split
    · simp [isComplete, hr]
    · exact h.notComplete i
  · intro i
    simp only
    split
    · intro _; exact hr
    · exact h.idle i

theorem inv_fuRedetect (site : Nat) (rate : Int) (cls : Nat) (s : State) (h : Inv s)
    (hc : cls ≠ prioUnfinished) : Inv (fuRedetect site rate cls s) := by
  unfold fuRedetect
  simp only
  split
  · -- the site has no request: nothing but the counters of the queue changes
    rename_i hx
    have hnin : site ∉ s.q.sites := (extract_spec s.q site).2.2.2.1 hx
    have hq : (s.pl site).queued = false := by
      cases hq : (s.pl site).queued
      · rfl
      · exact absurd ((h.flag site).1 hq) hnin
    refine (inv_drop h site hq (h.idle site hq)).1.congr rfl fun i => ?_
    simp only
    split
    · rename_i hi; rw [hi]
    · rfl
  · rename_i t hx
    have hin : site ∈ s.q.sites := Classical.byContradiction fun hnin => by
      rw [(extract_spec s.q site).2.2.2.2 hnin] at hx
      cases hx
    by_cases hz : cls = 0
    · simp only [hz, if_true]
      exact (inv_drop h site rfl rfl).1
    · simp only [hz, if_false]
      have hd := inv_drop h site (p := { s.pl site with queued := false, rep := none }) rfl rfl
      have hip : inProgress { s.pl site with rate := rate } = inProgress (s.pl site) := rfl
      refine (inv_put hd.1 hd.2 (p := { s.pl site with rate := rate }) rate ((h.flag site).2 hin) ?_
        (h.notComplete site)).congr rfl fun i => ?_
      · unfold effClass
        cases hrp : inProgress (s.pl site) <;> simp [hip, hrp, hc]
      · show (if i = site then _ else _) = (if i = site then _ else if i = site then _ else _)
        split <;> rfl

/-! ### histories -/

/-- what the callers of the follow-up schedule guarantee: a site is flagged for the first time only
while it has no outstanding follow-up (one shared flag dictionary), the classes handed in are the
ones the code uses (2, 3; 0 = dropped) -/
def OpOK (s : State) : Op → Prop
  | .day _ => True
  | .add cls site _ => (s.pl site).queued = false ∧ (cls = prioUnattended ∨ cls = prioNew)
  | .redetect _ _ cls => cls = 0 ∨ cls = prioUnattended ∨ cls = prioNew

def RunOK (c : Cfg) : State → List Op → Prop
  | _, [] => True
  | s, o :: os => OpOK s o ∧ RunOK c (step c s o) os

instance (s : State) (o : Op) : Decidable (OpOK s o) := by
  cases o <;> unfold OpOK <;> infer_instance

instance decRunOK (c : Cfg) : (s : State) → (ops : List Op) → Decidable (RunOK c s ops)
  | _, [] => isTrue trivial
  | s, o :: os => by
    unfold RunOK
    exact @instDecidableAnd _ _ inferInstance (decRunOK c (step c s o) os)

theorem inv_step (hc : c.sites.Nodup) (s : State) (h : Inv s) (o : Op) (ho : OpOK s o) :
    Inv (step c s o) := by
  cases o with
  | day d => exact inv_scheduleDay c hc d s h
  | add cls site rate =>
    apply inv_fuAdd cls site rate s h ho.1
    rcases ho.2 with h2 | h2 <;> simp [h2, prioUnattended, prioNew, prioUnfinished]
  | redetect site rate cls =>
    apply inv_fuRedetect site rate cls s h
    rcases ho with h2 | h2 | h2 <;> simp [h2, prioUnattended, prioNew, prioUnfinished]

theorem days_induct (I : State → Prop) (ds : List DayIn) (s : State) (h0 : I s)
    (hstep : ∀ d ∈ ds, ∀ s, I s → I (scheduleDay c d s)) : I (ds.foldl (fun s d => scheduleDay c d s) s) := by
  induction ds generalizing s with
  | nil => exact h0
  | cons d ds ih =>
    exact ih _ (hstep d (by simp) s h0) fun d' hd' => hstep d' (by simp [hd'])

theorem inv_runDays (hc : c.sites.Nodup) (ds : List DayIn) : Inv (runDays c ds) :=
  days_induct c Inv ds init inv_init fun d _ s h => inv_scheduleDay c hc d s h

/-! ### routine / stationary schedules: the class tells the whole state of the request -/

/-- entries of a routine queue: bare class (rate 0), class 3 exactly for requests that never were in
a work plan (no report yet), classes 1..3 only -/
def RInv (s : State) : Prop :=
  ∀ e ∈ s.q.entries, e.rate = 0 ∧ (e.cls = prioNew ↔ (s.pl e.site).rep = none) ∧
    (e.cls = prioUnfinished ∨ e.cls = prioUnattended ∨ e.cls = prioNew)

theorem rinv_init : RInv init := by simp [RInv, init]

theorem applyOutcome_rep_some (p : PlannerP) (o : Outcome) (s : PlannerS) :
    (applyOutcome p o s).rep ≠ none := by
  unfold applyOutcome; cases o <;> simp

theorem rinv_request (h : Inv s) (hr : RInv s) :
    RInv (requestPhase c dt s) := by
  intro e he
  rw [request_pl]
  rcases request_entry h.qwf he with he | ⟨h1, h3, hi⟩
  · exact hr e he
  · simp [h1, h3, h.idle _ (issued_not_queued c dt s _ hi)]

theorem rinv_finishDay (hk : c.kind ≠ .followup) (d : DayIn) (s1 : State) (h : Inv s1)
    (hr : RInv s1) : RInv (finishDay c d s1) := by
  intro e he
  rcases finish_entry h he with ⟨he, hp⟩ | ⟨_, hp, h1, h3⟩
  · rw [hp]; exact hr e he
  · have hsome : ((finishDay c d s1).pl e.site).rep ≠ none := hp ▸ applyOutcome_rep_some _ _ _
    rw [h1, h3]
    refine ⟨?_, ?_, ?_⟩
    · unfold rateOf; cases hkk : c.kind <;> simp_all
    · unfold requeueClass
      cases inProgress ((finishDay c d s1).pl e.site) <;> simp [prioUnfinished, prioUnattended, prioNew, hsome]
    · unfold requeueClass
      cases inProgress ((finishDay c d s1).pl e.site) <;> simp

theorem rinv_scheduleDay (hc : c.sites.Nodup) (hk : c.kind ≠ .followup) (d : DayIn) (s : State)
    (h : Inv s ∧ RInv s) : Inv (scheduleDay c d s) ∧ RInv (scheduleDay c d s) := by
  refine ⟨inv_scheduleDay c hc d s h.1, ?_⟩
  rw [scheduleDay_eq]
  exact rinv_finishDay c hk d _ (inv_request c hc d.date s h.1) (rinv_request c d.date s h.1 h.2)

theorem rinv_runDays (hc : c.sites.Nodup) (hk : c.kind ≠ .followup) (ds : List DayIn) :
    Inv (runDays c ds) ∧ RInv (runDays c ds) :=
  days_induct c (fun s => Inv s ∧ RInv s) ds init ⟨inv_init, rinv_init⟩
    fun d _ s h => rinv_scheduleDay c hc hk d s h

/-! ### classes are 1, 2 or 3 for every history -/

def ClsPos (s : State) : Prop := ∀ e ∈ s.q.entries, 1 ≤ e.cls

theorem clspos_put {q : Queue} (h : ∀ e ∈ q.entries, 1 ≤ e.cls) {cls : Nat} (p : PlannerS)
    (hc : 1 ≤ cls) (rate : Int) (site : Nat) : ∀ e ∈ (q.put (effClass cls p) rate site).entries, 1 ≤ e.cls := by
  intro e he
  rcases List.mem_cons.1 ((put_perm _ _ _ _).mem_iff.1 he) with rfl | he'
  · simp only [effClass]; split
    · simp [prioUnfinished]
    · exact hc
  · exact h e he'

theorem clspos_step (hc : c.sites.Nodup) (s : State) (h : Inv s) (hp : ClsPos s) (o : Op)
    (ho : OpOK s o) : ClsPos (step c s o) := by
  cases o with
  | day d =>
    show ClsPos (scheduleDay c d s)
    rw [scheduleDay_eq]
    intro e he
    rcases finish_entry (inv_request c hc d.date s h) he with ⟨he, _⟩ | ⟨_, _, h1, _⟩
    · rcases request_entry h.qwf he with he | ⟨h1, _, _⟩
      · exact hp e he
      · simp [h1, prioNew]
    · rw [h1]; unfold requeueClass; split <;> simp [prioUnfinished, prioUnattended]
  | add cls site rate =>
    exact clspos_put hp _ (by rcases ho.2 with h2 | h2 <;> simp [h2, prioUnattended, prioNew]) _ _
  | redetect site rate cls =>
    have hold : ∀ e' ∈ (s.q.extract site).2.entries, 1 ≤ e'.cls := fun e' he' => by
      obtain ⟨e, he, _, h1, _, _⟩ := (extract_spec s.q site).2.2.1 e' he'
      rw [h1]; exact hp e he
    show ClsPos (fuRedetect site rate cls s)
    unfold fuRedetect
    simp only
    split
    · exact hold
    · split
      · exact hold
      · rename_i hz
        refine clspos_put hold _ ?_ _ _
        rcases ho with h2 | h2 | h2
        · exact absurd h2 hz
        · simp [h2, prioUnattended]
        · simp [h2, prioNew]

theorem inv_clspos_foldl (hc : c.sites.Nodup) (ops : List Op) (s : State) (h : Inv s)
    (hp : ClsPos s) (hok : RunOK c s ops) :
    Inv (ops.foldl (step c) s) ∧ ClsPos (ops.foldl (step c) s) := by
  induction ops generalizing s with
  | nil => exact ⟨h, hp⟩
  | cons o os ih => exact ih _ (inv_step c hc s h o hok.1) (clspos_step c hc s h hp o hok.1) hok.2

theorem inv_run (hc : c.sites.Nodup) (ops : List Op) (hok : RunOK c init ops) : Inv (run c ops) :=
  (inv_clspos_foldl c hc ops init inv_init (by simp [ClsPos, init]) hok).1

theorem clspos_run (hc : c.sites.Nodup) (ops : List Op) (hok : RunOK c init ops) :
    ClsPos (run c ops) :=
  (inv_clspos_foldl c hc ops init inv_init (by simp [ClsPos, init]) hok).2

/-! ### per-site view of one day -/

theorem request_queued (i : Nat) :
    ((requestPhase c dt s).pl i).queued = ((s.pl i).queued || decide (i ∈ issued c dt s)) := by
  rw [request_pl]

/-- site `i`'s survey completes on day `d` started in state `s` -/
def completesAt (c : Cfg) (d : DayIn) (s : State) (i : Nat) : Bool :=
  decide (i ∈ planKeys c (requestPhase c d.date s)) && isComplete (deployed c d (requestPhase c d.date s) i)

theorem completesAt_iff (i : Nat) :
    completesAt c d s i = true ↔ i ∈ planKeys c (requestPhase c d.date s) ∧
      isComplete (deployed c d (requestPhase c d.date s) i) = true := by
  simp [completesAt]

theorem day_site (i : Nat) :
    ((scheduleDay c d s).pl i).log =
        (if completesAt c d s i then d.date.y :: (s.pl i).log else (s.pl i).log) ∧
    ((scheduleDay c d s).pl i).queued =
        (if completesAt c d s i then false else ((requestPhase c d.date s).pl i).queued) := by
  rw [scheduleDay_eq]
  unfold finishDay completesAt
  simp only [Bool.and_eq_true, decide_eq_true_eq]
  split
  · simp only [finish, (deployed_frame c d _ i).2, request_pl, and_self]
  · simp only [deployed_frame, request_pl, and_self]

theorem day_done (i y : Nat) :
    done ((scheduleDay c d s).pl i) y =
      done (s.pl i) y + (if completesAt c d s i = true ∧ y = d.date.y then 1 else 0) := by
  unfold done
  rw [(day_site c d s i).1]
  cases hcp : completesAt c d s i
  · simp
  · simp only [if_true, List.count_cons, true_and]
    by_cases hy : y = d.date.y
    · subst hy; simp
    · have : (d.date.y == y) = false := by simp; exact fun h => hy h.symm
      simp [this, hy]

theorem planKeys_queued (h : Inv s1) (i : Nat) (hi : i ∈ planKeys c s1) :
    (s1.pl i).queued = true := by
  apply (h.flag i).2
  rw [sites_split c s1 h]
  exact List.mem_append_left _ hi

theorem guardK_months (k : Kind) (p : PlannerP) (dt : Date) (s : PlannerS)
    (h : guardK k p dt s = true) : dt.y ∈ p.depYears ∧ dt.m ∈ p.months := by
  cases k <;> simp only [guardK, guardRoutine, guardStationary, Bool.and_eq_true,
    decide_eq_true_eq] at h
  · exact ⟨h.1.1.1.1, h.1.1.1.2⟩
  · exact ⟨h.1.1.1, h.1.1.2⟩
  · exact ⟨h.1.1.1.1, h.1.1.1.2⟩

theorem requestPhase_rep (sc : Cfg) (dt : Date) (s : State) (i : Nat) :
    ((requestPhase sc dt s).pl i).rep = (s.pl i).rep := by
  unfold requestPhase
  simp only
  split <;> rfl

end LdarModel.Sched
