import LdarModel.Model.Propagate
/-
Helper lemmas for the propagation model.  Each operation on a dictionary comes with what `get` returns
afterwards (`get_…`) and which keys are bound afterwards (`keys_…`, `mem_keys_…`).  Under the
well-formedness predicates over the key tables (`Tables.WF`) these give the closed form (`resolve` over
the levels) of the dictionaries along one chain site type → site → group → component.
Core Lean only (`Rat` is core; `grind` decides the field identities).
-/
namespace LdarModel.Propagate

variable {κ : Type} [DecidableEq κ]

/-! ### resolve -/

@[simp] theorem resolve_nil {V : Type} (g : V) : resolve [] g = g := rfl

@[simp] theorem resolve_cons {V : Type} (o : Option V) (l : List (Option V)) (g : V) :
    resolve (o :: l) g = resolve l (o.getD g) := rfl

theorem resolve_append {V : Type} (l1 l2 : List (Option V)) (g : V) :
    resolve (l1 ++ l2) g = resolve l2 (resolve l1 g) :=
  List.foldl_append

theorem resolve_all_none {V : Type} (l : List (Option V)) (g : V) (h : ∀ o ∈ l, o = none) :
    resolve l g = g := by
  induction l with
  | nil => rfl
  | cons o l ih =>
    rw [resolve_cons, h o List.mem_cons_self, Option.getD_none]
    exact ih fun o' ho' => h o' (List.mem_cons_of_mem _ ho')

/-! ### dictionaries -/

theorem Dict.get_set (d : Dict κ) (k k' : κ) (v : PV) :
    (d.set k' v).get k = if k = k' then v else d.get k := by
  rw [Dict.get, Dict.set, List.lookup_cons]
  by_cases h : k = k'
  · simp [h]
  · rw [beq_false_of_ne h, if_neg h]; rfl

theorem Dict.get_set_ne (d : Dict κ) {k k' : κ} (v : PV) (h : k ≠ k') :
    (d.set k' v).get k = d.get k := by
  rw [Dict.get_set, if_neg h]

set_option linter.unusedSectionVars false in
theorem Dict.keys_set (d : Dict κ) (k : κ) (v : PV) : (d.set k v).keys = k :: d.keys := rfl

theorem Dict.get_cons (e : κ × PV) (d : Dict κ) (k : κ) :
    Dict.get (e :: d) k = if k = e.1 then e.2 else d.get k :=
  Dict.get_set d k e.1 e.2

theorem Dict.mem_keys_of_get {d : Dict κ} {k : κ} (h : d.get k ≠ .nul) : k ∈ d.keys := by
  induction d with
  | nil => exact absurd rfl h
  | cons e es ih =>
    rw [Dict.get_cons] at h
    by_cases hk : k = e.1
    · simp [Dict.keys, hk]
    · exact List.mem_cons_of_mem _ (ih (by simpa [hk] using h))

theorem Dict.keys_map_keys {α : Type} (keys : List α) (f : α → PV) :
    Dict.keys (keys.map (fun k => (k, f k))) = keys := by
  simp [Dict.keys, Function.comp_def]

theorem Dict.get_map_keys (keys : List κ) (f : κ → PV) (k : κ) :
    Dict.get (keys.map (fun k => (k, f k))) k = if k ∈ keys then f k else .nul := by
  induction keys with
  | nil => rfl
  | cons a as ih =>
    rw [List.map_cons, Dict.get_cons, ih]
    by_cases h : k = a <;> simp [h]

theorem Dict.get_append (d1 d2 : Dict κ) (k : κ) :
    Dict.get (d1 ++ d2) k = if k ∈ d1.keys then d1.get k else d2.get k := by
  induction d1 with
  | nil => rfl
  | cons e es ih =>
    rw [List.cons_append, Dict.get_cons, Dict.get_cons, ih, show Dict.keys (e :: es) = e.1 :: Dict.keys es from rfl]
    by_cases h : k = e.1 <;> simp [h]

/-! ### one level -/

theorem updFrom_cons {α : Type} (col : α → String) (a : α) (as : List α) (row : Row) (d : Dict α) :
    updFrom col (a :: as) row d
      = updFrom col as row (match row.get? (col a) with
                            | some v => d.set a v
                            | none => d) := rfl

theorem get_updFrom (col : κ → String) (keys : List κ) (row : Row) (d : Dict κ) (k : κ) :
    (updFrom col keys row d).get k
      = if k ∈ keys then (row.get? (col k)).getD (d.get k) else d.get k := by
  induction keys generalizing d with
  | nil => rfl
  | cons a as ih =>
    rw [updFrom_cons, ih]
    by_cases hka : k = a
    · subst hka; cases row.get? (col k) <;> simp [Dict.get_set]
    · cases row.get? (col a) <;> simp [hka, Dict.get_set]

theorem mem_keys_updFrom {col : κ → String} {keys K : List κ} {row : Row} {d : Dict κ} {k : κ}
    (hd : ∀ a, a ∈ d.keys ↔ a ∈ K) (h : ∀ a ∈ keys, a ∈ K) :
    k ∈ (updFrom col keys row d).keys ↔ k ∈ K := by
  induction keys generalizing d with
  | nil => exact hd k
  | cons a as ih =>
    have has : ∀ b ∈ as, b ∈ K := fun b hb => h b (by simp [hb])
    rw [updFrom_cons]
    cases row.get? (col a) with
    | none => exact ih hd has
    | some v =>
      refine ih (d := d.set a v) (fun b => ?_) has
      rw [Dict.keys_set, List.mem_cons, hd]
      exact ⟨fun hb => hb.elim (· ▸ h a (by simp)) id, Or.inr⟩

/-! ### scaling -/

theorem get_scaleKeys (keys : List κ) (n : Rat) (d : Dict κ) (k : κ) :
    (scaleKeys keys n d).get k = if k ∈ keys then (d.get k).divBy n else d.get k := by
  induction d with
  | nil => simp [scaleKeys, Dict.get, PV.divBy]
  | cons e es ih =>
    unfold scaleKeys at ih ⊢
    rw [List.map_cons, Dict.get_cons, Dict.get_cons, ih]
    by_cases hk : k = e.1
    · subst hk; by_cases hm : e.1 ∈ keys <;> simp [hm]
    · by_cases hm : e.1 ∈ keys <;> simp [hm, hk]

theorem keys_scaleKeys (keys : List κ) (n : Rat) (d : Dict κ) :
    (scaleKeys keys n d).keys = d.keys := by
  simp only [scaleKeys, Dict.keys, List.map_map]
  exact List.map_congr_left fun e _ => by simp only [Function.comp]; split <;> rfl

/-! ### component split -/

theorem get_divStep (key : String) (nC : Nat) (d : Dict String) (k : String) :
    (divStep key nC d).get k = if k = key then (d.get k).divPos nC else d.get k := by
  unfold divStep
  by_cases hk : k = key
  · subst hk
    cases hv : d.get k with
    | num q => by_cases hq : 0 < q <;> simp [PV.divPos, hq, hv, Dict.get_set]
    | _ => simp [PV.divPos, hv]
  · cases d.get key with
    | num q => by_cases hq : 0 < q <;> simp [hq, hk, Dict.get_set]
    | _ => simp [hk]

theorem mem_keys_divStep {key : String} {nC : Nat} {d : Dict String} {k : String} :
    k ∈ (divStep key nC d).keys ↔ k ∈ d.keys := by
  unfold divStep
  cases hv : d.get key with
  | num q =>
    by_cases hq : 0 < q
    · have hkey : key ∈ d.keys := Dict.mem_keys_of_get (by simp [hv])
      simp only [if_pos hq, Dict.keys_set, List.mem_cons]
      exact ⟨fun h => h.elim (· ▸ hkey) id, Or.inr⟩
    · simp only [if_neg hq]
  | _ => rfl

theorem get_compDict (tb : Tables) (nC : Nat) (d : Dict String) (k : String)
    (hne : tb.eqRepEpr ≠ tb.eqNonRepEpr) :
    (compDict tb nC d).get k
      = if k = tb.eqRepEpr ∨ k = tb.eqNonRepEpr then (d.get k).divPos nC else d.get k := by
  unfold compDict
  rw [get_divStep, get_divStep]
  by_cases h1 : k = tb.eqRepEpr
  · subst h1; simp [hne]
  · by_cases h2 : k = tb.eqNonRepEpr
    · subst h2; simp [h1]
    · simp [h1, h2]

/-! ### the un-prefixing loop -/

section
variable {pre : String} {R : Row} {d : Dict String} {sk key0 k : String}

theorem foldl_unprefix_other (l : List String) (acc : Dict String)
    (h : ∀ k0 ∈ l, removeAll pre k0 ≠ k) :
    (l.foldl (unprefixStep pre R) acc).get k = acc.get k := by
  induction l generalizing acc with
  | nil => rfl
  | cons a as ih =>
    rw [List.foldl_cons, ih _ (fun k0 hk0 => h k0 (by simp [hk0]))]
    exact Dict.get_set_ne _ _ (fun hh => h a (by simp) hh.symm)

/-- stated with `if key0 ∈ l` so that the induction goes through: a later visit of `key0` writes the
same value again -/
theorem foldl_unprefix_get (hu : removeAll pre key0 = sk) (l : List String) (acc : Dict String)
    (h2 : ∀ k' ∈ l, removeAll pre k' = sk → k' = key0)
    (h3 : ∀ k' ∈ l, removeAll pre k' ≠ key0) :
    (l.foldl (unprefixStep pre R) acc).get sk
      = if key0 ∈ l then (R.get? sk).getD (acc.get key0) else acc.get sk := by
  induction l generalizing acc with
  | nil => rfl
  | cons a as ih =>
    have h0 : (unprefixStep pre R acc a).get key0 = acc.get key0 :=
      Dict.get_set_ne _ _ (fun h => h3 a (by simp) h.symm)
    rw [List.foldl_cons, ih _ (fun k' hk' => h2 k' (by simp [hk'])) (fun k' hk' => h3 k' (by simp [hk'])),
      h0, unprefixStep, Dict.get_set]
    by_cases ha : a = key0
    · subst ha; simp [hu]
    · have hsa : ¬ sk = removeAll pre a := fun h => ha (h2 a (by simp) h.symm)
      simp [hsa, Ne.symm ha]

theorem get_unprefixLoop (hu : removeAll pre key0 = sk) (hin : hasInfix pre key0 = true)
    (hmem : key0 ∈ d.keys)
    (h2 : ∀ k' ∈ d.keys, hasInfix pre k' = true → removeAll pre k' = sk → k' = key0)
    (h3 : ∀ k' ∈ d.keys, hasInfix pre k' = true → removeAll pre k' ≠ key0) :
    (unprefixLoop pre R d).get sk = (R.get? sk).getD (d.get key0) := by
  unfold unprefixLoop
  rw [foldl_unprefix_get hu, if_pos (List.mem_filter.mpr ⟨hmem, hin⟩)]
  · exact fun k' hk' => h2 k' (List.mem_filter.mp hk').1 (List.mem_filter.mp hk').2
  · exact fun k' hk' => h3 k' (List.mem_filter.mp hk').1 (List.mem_filter.mp hk').2

theorem get_unprefixLoop_other (h : ∀ k0 ∈ d.keys, hasInfix pre k0 = true → removeAll pre k0 ≠ k) :
    (unprefixLoop pre R d).get k = d.get k :=
  foldl_unprefix_other _ d fun k0 hk0 => h k0 (List.mem_filter.mp hk0).1 (List.mem_filter.mp hk0).2

theorem mem_keys_foldl_unprefix (l : List String) (acc : Dict String) :
    k ∈ (l.foldl (unprefixStep pre R) acc).keys ↔ k ∈ acc.keys ∨ ∃ k0 ∈ l, removeAll pre k0 = k := by
  induction l generalizing acc with
  | nil => simp
  | cons a as ih => simp [ih, unprefixStep, Dict.keys_set, or_assoc, or_left_comm, eq_comm]

theorem mem_keys_unprefixLoop :
    k ∈ (unprefixLoop pre R d).keys
      ↔ k ∈ d.keys ∨ ∃ k0 ∈ d.keys, hasInfix pre k0 = true ∧ removeAll pre k0 = k := by
  simp [unprefixLoop, mem_keys_foldl_unprefix, and_assoc]

end

/-! ### method keys and the global dictionaries -/

theorem mem_methKeys (methods ps : List String) (me p : String) :
    (me, p) ∈ methKeys methods ps ↔ me ∈ methods ∧ p ∈ ps := by
  simp [methKeys]

theorem get_globalPlain (tb : Tables) (G : Dict String) (k : String) :
    (globalPlain tb G).get k = if k ∈ tb.globalPlain then G.get k else .nul :=
  Dict.get_map_keys tb.globalPlain G.get k

theorem keys_globalPlain (tb : Tables) (G : Dict String) : (globalPlain tb G).keys = tb.globalPlain :=
  Dict.keys_map_keys _ _

theorem get_globalMeth (tb : Tables) (methods : List String) (Gm : Dict MKey) (me p : String) :
    (globalMeth tb methods Gm).get (me, p)
      = if me ∈ methods ∧ p ∈ tb.globalMeth then gmVal tb Gm (me, p)
        else if me ∈ methods ∧ p = tb.siteDeploy then PV.tru else .nul := by
  have hd : methods.map (fun m => (((m, tb.siteDeploy) : MKey), PV.tru))
      = (methKeys methods [tb.siteDeploy]).map (fun k => (k, PV.tru)) := by simp [methKeys, ← List.map_eq_flatMap]
  unfold globalMeth
  rw [Dict.get_append, Dict.keys_map_keys, Dict.get_map_keys, hd, Dict.get_map_keys]
  by_cases h : me ∈ methods ∧ p ∈ tb.globalMeth <;> simp [mem_methKeys, h]

theorem get_globalMeth_of_mem {tb : Tables} {methods : List String} {Gm : Dict MKey} {me p : String}
    (hme : me ∈ methods) (hp : p ∈ tb.globalMeth) :
    (globalMeth tb methods Gm).get (me, p) = gmVal tb Gm (me, p) := by
  rw [get_globalMeth, if_pos ⟨hme, hp⟩]

/-! ### exact sums -/

theorem sum_replicate_rat (c : Nat) (y : Rat) : (List.replicate c y).sum = (c : Rat) * y := by
  induction c with
  | zero => simp
  | succ n ih =>
    rw [List.replicate_succ, List.sum_cons, ih, Rat.natCast_add]
    grind

theorem sum_map_eq_const {α : Type} (l : List α) (f : α → Rat) (y : Rat) (h : ∀ a ∈ l, f a = y) :
    (l.map f).sum = (l.length : Rat) * y := by
  rw [List.map_congr_left h, List.map_const', sum_replicate_rat]

theorem mul_div_cancel_nat (x : Rat) (n : Nat) (hn : n ≠ 0) : (n : Rat) * (x / (n : Rat)) = x := by
  have : (n : Rat) ≠ 0 := by exact_mod_cast hn
  grind

theorem sumPV_go (qs : List Rat) (a : Rat) :
    (qs.map PV.num).foldl sumStep (some a) = some (a + qs.sum) := by
  induction qs generalizing a with
  | nil => simp [Rat.add_zero]
  | cons q qs ih =>
    rw [List.map_cons, List.foldl_cons, List.sum_cons, sumStep, ih, Rat.add_assoc]

theorem sumPV_nums (qs : List Rat) : sumPV (qs.map PV.num) = some qs.sum := by
  rw [sumPV, sumPV_go, Rat.zero_add]

/-- the loop `for c in cells: for i in range(count c)` of `_create_components`, stated after
`List.map_flatMap`, `List.map_map` have pushed the function applied to the components inside, so that
no unification has to look into the components -/
theorem flatMap_range_const {α γ : Type} (l : List α) (n : α → Nat) (v : γ) :
    l.flatMap (fun c => (List.range (n c)).map (fun _ => v)) = List.replicate (l.map n).sum v := by
  induction l with
  | nil => rfl
  | cons a as ih =>
    rw [List.flatMap_cons, ih, List.map_cons, List.sum_cons, ← List.replicate_append_replicate,
      List.map_const', List.length_range]

theorem sum_flatMap_range_const {α : Type} (l : List α) (n k : α → Nat) :
    (l.flatMap (fun c => (List.range (n c)).map (fun _ => k c))).sum = (l.map (fun c => n c * k c)).sum := by
  induction l with
  | nil => rfl
  | cons a as ih =>
    rw [List.flatMap_cons, List.sum_append, ih, List.map_cons, List.sum_cons, List.map_const',
      List.sum_replicate_nat, List.length_range]

theorem length_flatMap_range {α β : Type} (l : List α) (n : α → Nat) (f : α → Nat → β) :
    (l.flatMap (fun c => (List.range (n c)).map (f c))).length = (l.map n).sum := by
  simp [List.length_flatMap]

/-- no case distinction on `x` survives: `divPos` leaves `0` alone, and `0 / c = 0` -/
theorem numOf_divBy_divPos (x n : Rat) (c : Nat) (hn : 0 < n) (hx : 0 ≤ x) :
    numOf (((PV.num x).divBy n).divPos c) = x / n / (c : Rat) := by
  simp only [PV.divBy, PV.divPos]
  split
  · rfl
  · next hpos =>
    have hge : 0 ≤ x / n := by
      rw [Rat.div_def]
      exact Rat.mul_nonneg hx (Rat.le_of_lt (Rat.inv_pos.mpr hn))
    rw [numOf, Rat.le_antisymm (Rat.not_lt.mp hpos) hge, Rat.div_def, Rat.zero_mul]

/-! ### strings through their characters (the model's string functions work on `String.toList`) -/

theorem removeAll_eq_iff (p s t : String) :
    removeAll p s = t ↔ removeAllL p.toList s.toList = t.toList := by
  rw [removeAll, ← String.toList_inj, String.toList_ofList]

theorem toList_removeAll (p s : String) : (removeAll p s).toList = removeAllL p.toList s.toList :=
  String.toList_ofList

theorem mem_iff_toList_mem (a : String) (l : List String) : a ∈ l ↔ a.toList ∈ l.map String.toList := by
  simp [String.toList_inj]

/-! ### well-formedness of the key tables (decidable; discharged for the generated tables by evaluation) -/

/-- the keys the source level reads for a repairable / non-repairable source -/
def Tables.srcKeysFor (tb : Tables) (rep : Bool) : List String :=
  [tb.srcErs, tb.srcEpr, tb.srcDur, tb.srcMulti] ++ (if rep then [tb.srcRd, tb.srcRc] else [])

def Tables.prefixOf (tb : Tables) (rep : Bool) : String := if rep then tb.repPrefix else tb.nonRepPrefix

/-- every propagating parameter uses the same key at every level where it may be specified -/
abbrev Tables.SameKeys (tb : Tables) : Prop :=
  (∀ k ∈ tb.globalPlain, k ∈ tb.typePlain ∧ k ∈ tb.sitePlain ∧ k ∈ tb.eqCleanPlain) ∧
  (∀ k ∈ tb.typePlain, k ∈ tb.globalPlain) ∧ (∀ k ∈ tb.sitePlain, k ∈ tb.globalPlain) ∧
  (∀ k ∈ tb.eqCleanPlain, k ∈ tb.globalPlain) ∧
  (∀ p ∈ tb.allMeth, p ∈ tb.typeMeth ∧ p ∈ tb.siteMeth) ∧
  (∀ p ∈ tb.typeMeth, p ∈ tb.allMeth) ∧ (∀ p ∈ tb.siteMeth, p ∈ tb.allMeth) ∧
  (∀ p ∈ tb.groupMeth, p ∈ tb.eqCleanMeth) ∧ (∀ p ∈ tb.eqCleanMeth, p ∈ tb.groupMeth)

/-- the scaled entries are exactly the two production rates resp. survey time and cost, listed once -/
abbrev Tables.ScaleOK (tb : Tables) : Prop :=
  tb.scalePlain.Nodup ∧ tb.scaleMeth.Nodup ∧
  (∀ k ∈ tb.scalePlain, k = tb.eqRepEpr ∨ k = tb.eqNonRepEpr) ∧
  tb.eqRepEpr ∈ tb.scalePlain ∧ tb.eqNonRepEpr ∈ tb.scalePlain ∧
  tb.eqRepEpr ∈ tb.globalPlain ∧ tb.eqNonRepEpr ∈ tb.globalPlain ∧
  tb.eqRepEpr ≠ tb.eqNonRepEpr ∧
  tb.siteRepEpr = tb.eqRepEpr ∧ tb.siteNonRepEpr = tb.eqNonRepEpr ∧
  tb.eqRepEpr = tb.repPrefix ++ tb.srcEpr ∧ tb.eqNonRepEpr = tb.nonRepPrefix ++ tb.srcEpr ∧
  (∀ p ∈ tb.scaleMeth, p = tb.eqTimeKey ∨ p = tb.eqCostKey) ∧
  tb.eqTimeKey ∈ tb.scaleMeth ∧ tb.eqCostKey ∈ tb.scaleMeth ∧
  (∀ rep ∈ [true, false], ∀ sk ∈ tb.srcKeysFor rep,
      (tb.prefixOf rep ++ sk ∈ tb.scalePlain ↔ sk = tb.srcEpr))

/-- what is popped where, and that coverage is neither scaled nor popped before the source -/
abbrev Tables.PopsOK (tb : Tables) : Prop :=
  tb.freqKey ∈ tb.globalMeth ∧ tb.monthsKey ∈ tb.globalMeth ∧ tb.yearsKey ∈ tb.globalMeth ∧
  tb.deployKey = tb.siteDeploy ∧ tb.siteDeploy ∉ tb.globalMeth ∧
  tb.eqTimeKey ∈ tb.globalMeth ∧ tb.eqCostKey ∈ tb.globalMeth ∧
  tb.eqTimeKey ∈ tb.groupMeth ∧ tb.eqCostKey ∈ tb.groupMeth ∧
  tb.srcSpatial ∈ tb.globalMeth ∧ tb.srcTemporal ∈ tb.globalMeth ∧
  tb.srcSpatial ∈ tb.sourceMeth ∧ tb.srcTemporal ∈ tb.sourceMeth ∧
  tb.srcSpatial ∉ tb.scaleMeth ∧ tb.srcTemporal ∉ tb.scaleMeth ∧
  tb.srcErs ≠ tb.srcEpr ∧ tb.srcDur ≠ tb.srcEpr ∧ tb.srcMulti ≠ tb.srcEpr ∧
  tb.srcRd ≠ tb.srcEpr ∧ tb.srcRc ≠ tb.srcEpr

/-- the un-prefixing rule maps each prefixed key to the key the source reads, and to nothing else -/
abbrev Tables.UnprefixOK (tb : Tables) : Prop :=
  ∀ rep ∈ [true, false], ∀ sk ∈ tb.srcKeysFor rep,
    (tb.prefixOf rep ++ sk) ∈ tb.globalPlain ∧
    hasInfix (tb.prefixOf rep) (tb.prefixOf rep ++ sk) = true ∧
    removeAll (tb.prefixOf rep) (tb.prefixOf rep ++ sk) = sk ∧
    (∀ k' ∈ tb.globalPlain, hasInfix (tb.prefixOf rep) k' = true →
        removeAll (tb.prefixOf rep) k' = sk → k' = tb.prefixOf rep ++ sk) ∧
    (∀ k' ∈ tb.globalPlain, hasInfix (tb.prefixOf rep) k' = true →
        removeAll (tb.prefixOf rep) k' ≠ tb.prefixOf rep ++ sk)

/-- the two sources of a two-kind placeholder component share one dictionary: what the repairable
source's un-prefixing writes into it is invisible to the non-repairable source -/
abbrev Tables.SharedOK (tb : Tables) : Prop :=
  (∀ k ∈ tb.globalPlain, hasInfix tb.repPrefix k = true →
      hasInfix tb.nonRepPrefix (removeAll tb.repPrefix k) = false) ∧
  (∀ k ∈ tb.globalPlain, hasInfix tb.repPrefix k = true →
      ∀ sk ∈ tb.srcKeysFor false, removeAll tb.repPrefix k ≠ tb.nonRepPrefix ++ sk)

abbrev Tables.WF (tb : Tables) : Prop := tb.SameKeys ∧ tb.ScaleOK ∧ tb.PopsOK ∧ tb.UnprefixOK

theorem mem_bools (b : Bool) : b ∈ [true, false] := by cases b <;> simp

/-- named components of `PopsOK` -/
structure Tables.Pops (tb : Tables) : Prop where
  freqG : tb.freqKey ∈ tb.globalMeth
  monthsG : tb.monthsKey ∈ tb.globalMeth
  yearsG : tb.yearsKey ∈ tb.globalMeth
  deployEq : tb.deployKey = tb.siteDeploy
  deployNotG : tb.siteDeploy ∉ tb.globalMeth
  timeG : tb.eqTimeKey ∈ tb.globalMeth
  costG : tb.eqCostKey ∈ tb.globalMeth
  timeGrp : tb.eqTimeKey ∈ tb.groupMeth
  costGrp : tb.eqCostKey ∈ tb.groupMeth
  spG : tb.srcSpatial ∈ tb.globalMeth
  tmG : tb.srcTemporal ∈ tb.globalMeth
  spSrc : tb.srcSpatial ∈ tb.sourceMeth
  tmSrc : tb.srcTemporal ∈ tb.sourceMeth
  spNotScaled : tb.srcSpatial ∉ tb.scaleMeth
  tmNotScaled : tb.srcTemporal ∉ tb.scaleMeth
  ersNe : tb.srcErs ≠ tb.srcEpr
  durNe : tb.srcDur ≠ tb.srcEpr
  multiNe : tb.srcMulti ≠ tb.srcEpr
  rdNe : tb.srcRd ≠ tb.srcEpr
  rcNe : tb.srcRc ≠ tb.srcEpr

theorem Tables.PopsOK.named {tb : Tables} (h : tb.PopsOK) : tb.Pops := by
  obtain ⟨a1, a2, a3, a4, a5, a6, a7, a8, a9, a10, a11, a12, a13, a14, a15, a16, a17, a18, a19, a20⟩ := h
  exact ⟨a1, a2, a3, a4, a5, a6, a7, a8, a9, a10, a11, a12, a13, a14, a15, a16, a17, a18, a19, a20⟩

/-- named components of `ScaleOK` -/
structure Tables.Scale (tb : Tables) : Prop where
  nodupPlain : tb.scalePlain.Nodup
  nodupMeth : tb.scaleMeth.Nodup
  plainSub : ∀ k ∈ tb.scalePlain, k = tb.eqRepEpr ∨ k = tb.eqNonRepEpr
  repIn : tb.eqRepEpr ∈ tb.scalePlain
  nonIn : tb.eqNonRepEpr ∈ tb.scalePlain
  repG : tb.eqRepEpr ∈ tb.globalPlain
  nonG : tb.eqNonRepEpr ∈ tb.globalPlain
  ne : tb.eqRepEpr ≠ tb.eqNonRepEpr
  siteRep : tb.siteRepEpr = tb.eqRepEpr
  siteNon : tb.siteNonRepEpr = tb.eqNonRepEpr
  repEq : tb.eqRepEpr = tb.repPrefix ++ tb.srcEpr
  nonEq : tb.eqNonRepEpr = tb.nonRepPrefix ++ tb.srcEpr
  methSub : ∀ p ∈ tb.scaleMeth, p = tb.eqTimeKey ∨ p = tb.eqCostKey
  timeIn : tb.eqTimeKey ∈ tb.scaleMeth
  costIn : tb.eqCostKey ∈ tb.scaleMeth
  scaledIff : ∀ rep ∈ [true, false], ∀ sk ∈ tb.srcKeysFor rep,
      (tb.prefixOf rep ++ sk ∈ tb.scalePlain ↔ sk = tb.srcEpr)

theorem Tables.ScaleOK.named {tb : Tables} (h : tb.ScaleOK) : tb.Scale := by
  obtain ⟨a1, a2, a3, a4, a5, a6, a7, a8, a9, a10, a11, a12, a13, a14, a15, a16⟩ := h
  exact ⟨a1, a2, a3, a4, a5, a6, a7, a8, a9, a10, a11, a12, a13, a14, a15, a16⟩

theorem Tables.WF.scale {tb : Tables} (hw : tb.WF) : tb.Scale := hw.2.1.named

theorem Tables.WF.pops {tb : Tables} (hw : tb.WF) : tb.Pops := hw.2.2.1.named

/-! ### the fields of a source

Stated for an arbitrary dictionary `d` and used by rewriting: checking such an equation by unfolding
`sourceEff` over a dictionary in closed form makes the elaborator reduce that dictionary as far as it
can, which is slow. -/

@[simp] theorem sourceEff_rep (tb : Tables) (methods : List String) (sid : String) (rep : Bool) (R : Row)
    (d : Dict String) (m : Dict MKey) : (sourceEff tb methods sid rep R d m).rep = rep := rfl

@[simp] theorem sourceEff_ownRate (tb : Tables) (methods : List String) (sid : String) (rep : Bool) (R : Row)
    (d : Dict String) (m : Dict MKey) :
    (sourceEff tb methods sid rep R d m).ownRate = (R.get? tb.srcEpr).isSome := rfl

theorem sourceEff_plain (tb : Tables) (methods : List String) (sid : String) (rep : Bool) (R : Row)
    (d : Dict String) (m : Dict MKey) :
    let s := sourceEff tb methods sid rep R d m
    let v := (unprefixLoop (tb.prefixOf rep) R d).get
    s.ers = v tb.srcErs ∧ s.epr = v tb.srcEpr ∧ s.dur = v tb.srcDur ∧ s.multi = v tb.srcMulti ∧
    (rep = true → s.rd = v tb.srcRd ∧ s.rc = v tb.srcRc) ∧ (rep = false → s.rd = .nul ∧ s.rc = .nul) :=
  ⟨rfl, rfl, rfl, rfl, by rintro rfl; exact ⟨rfl, rfl⟩, by rintro rfl; exact ⟨rfl, rfl⟩⟩

theorem sourceEff_congr (tb : Tables) (methods : List String) (sid : String) (rep : Bool) (R : Row)
    (d d' : Dict String) (m : Dict MKey)
    (h : ∀ sk ∈ tb.srcKeysFor rep,
      (unprefixLoop (tb.prefixOf rep) R d).get sk = (unprefixLoop (tb.prefixOf rep) R d').get sk) :
    sourceEff tb methods sid rep R d m = sourceEff tb methods sid rep R d' m := by
  cases rep <;> simp_all [sourceEff, Tables.srcKeysFor, Tables.prefixOf]

/-! ### the dictionaries along one chain site type → site → group → component -/

/-- what a site type row says about a column (`none` without a site type file) -/
def typeGet (typeRow : Option Row) (c : String) : Option PV := typeRow.bind (fun t => t.get? c)

/-- the dictionaries an equipment group works with (after its own overrides) -/
def groupCtx (tb : Tables) (methods : List String) (G : Dict String) (Gm : Dict MKey)
    (typeRow : Option Row) (siteRow eqRow : Row) (nG : Rat) : Dict String × Dict MKey :=
  groupDicts tb methods eqRow
    (scaleKeys tb.scalePlain nG (siteDicts tb methods G Gm typeRow siteRow).1)
    (scaleKeys (methKeys methods tb.scaleMeth) nG (siteDicts tb methods G Gm typeRow siteRow).2)

/-- the dictionary a component of that group hands to its sources -/
def compCtx (tb : Tables) (methods : List String) (G : Dict String) (Gm : Dict MKey)
    (typeRow : Option Row) (siteRow eqRow : Row) (nG : Rat) : Dict String :=
  compDict tb (totalComponents tb eqRow) (groupCtx tb methods G Gm typeRow siteRow eqRow nG).1

section
variable {tb : Tables} {methods : List String} {G : Dict String} {Gm : Dict MKey} {typeRow : Option Row}
  {siteRow eqRow : Row} {nG : Rat} {k me p : String}

theorem get_sitePlain (h : tb.SameKeys) (hk : k ∈ tb.globalPlain) :
    (siteDicts tb methods G Gm typeRow siteRow).1.get k
      = resolve [typeGet typeRow k, siteRow.get? k] (G.get k) := by
  obtain ⟨hT, hS, -⟩ := h.1 k hk
  unfold siteDicts
  cases typeRow <;> simp [typeGet, get_updFrom, hT, hS, get_globalPlain, hk]

theorem mem_keys_sitePlain (h : tb.SameKeys) :
    k ∈ (siteDicts tb methods G Gm typeRow siteRow).1.keys ↔ k ∈ tb.globalPlain := by
  obtain ⟨-, hType, hSite, -⟩ := h
  have h0 : ∀ a, a ∈ (globalPlain tb G).keys ↔ a ∈ tb.globalPlain := fun a => by rw [keys_globalPlain]
  unfold siteDicts
  cases typeRow with
  | none => exact mem_keys_updFrom h0 hSite
  | some t => exact mem_keys_updFrom (fun _ => mem_keys_updFrom h0 hType) hSite

theorem mem_keys_compCtx (h : tb.SameKeys) :
    k ∈ (compCtx tb methods G Gm typeRow siteRow eqRow nG).keys ↔ k ∈ tb.globalPlain := by
  unfold compCtx compDict groupCtx groupDicts
  rw [mem_keys_divStep, mem_keys_divStep, mem_keys_updFrom (fun _ => Iff.rfl) (fun _ ha => ha),
    keys_scaleKeys, mem_keys_sitePlain h]

theorem get_groupPlain (h : tb.SameKeys) (hk : k ∈ tb.globalPlain) :
    (groupCtx tb methods G Gm typeRow siteRow eqRow nG).1.get k
      = resolve [eqRow.get? k]
          (if k ∈ tb.scalePlain
            then (resolve [typeGet typeRow k, siteRow.get? k] (G.get k)).divBy nG
            else resolve [typeGet typeRow k, siteRow.get? k] (G.get k)) := by
  unfold groupCtx groupDicts
  rw [get_updFrom, keys_scaleKeys, if_pos ((mem_keys_sitePlain h).mpr hk), get_scaleKeys, get_sitePlain h hk]
  rfl

theorem mem_scalePlain_iff (hs : tb.ScaleOK) :
    k ∈ tb.scalePlain ↔ (k = tb.eqRepEpr ∨ k = tb.eqNonRepEpr) :=
  ⟨hs.named.plainSub k, fun h => h.elim (· ▸ hs.named.repIn) (· ▸ hs.named.nonIn)⟩

theorem get_compCtx (h : tb.SameKeys) (hs : tb.ScaleOK) (hk : k ∈ tb.globalPlain) :
    (compCtx tb methods G Gm typeRow siteRow eqRow nG).get k
      = if k ∈ tb.scalePlain
          then (resolve [eqRow.get? k]
                  ((resolve [typeGet typeRow k, siteRow.get? k] (G.get k)).divBy nG)).divPos
                (totalComponents tb eqRow)
          else resolve [typeGet typeRow k, siteRow.get? k, eqRow.get? k] (G.get k) := by
  unfold compCtx
  rw [get_compDict _ _ _ _ hs.named.ne, get_groupPlain h hk]
  simp only [← mem_scalePlain_iff hs]
  split <;> rfl

theorem get_siteMeth (h : tb.SameKeys) (hme : me ∈ methods) (hp : p ∈ tb.allMeth) :
    (siteDicts tb methods G Gm typeRow siteRow).2.get (me, p)
      = resolve [typeGet typeRow (me ++ p), siteRow.get? (me ++ p)] ((globalMeth tb methods Gm).get (me, p)) := by
  obtain ⟨-, -, -, -, hMeth, -⟩ := h
  obtain ⟨hT, hS⟩ := hMeth p hp
  unfold siteDicts
  cases typeRow <;> simp [typeGet, get_updFrom, mem_methKeys, hme, hT, hS, MKey.col]

theorem get_groupMeth (h : tb.SameKeys) (hme : me ∈ methods) (hp : p ∈ tb.groupMeth) :
    (groupCtx tb methods G Gm typeRow siteRow eqRow nG).2.get (me, p)
      = resolve [eqRow.get? (me ++ p)]
          (if p ∈ tb.scaleMeth
            then (resolve [typeGet typeRow (me ++ p), siteRow.get? (me ++ p)]
                    ((globalMeth tb methods Gm).get (me, p))).divBy nG
            else resolve [typeGet typeRow (me ++ p), siteRow.get? (me ++ p)]
                    ((globalMeth tb methods Gm).get (me, p))) := by
  unfold groupCtx groupDicts
  rw [get_updFrom, get_scaleKeys, get_siteMeth h hme (List.mem_filter.mp hp).1]
  simp [mem_methKeys, hme, hp, MKey.col]

end

/-! ### the groups of a site -/

/-- the equipment cell names groups or is a whole number (`2`, `2.0`), not `2.5` -/
def EquipSpec.Integral : EquipSpec → Prop
  | .count q => q = ((q.floor.toNat : Nat) : Rat)
  | _ => True

instance (spec : EquipSpec) : Decidable spec.Integral := by
  cases spec <;> unfold EquipSpec.Integral <;> infer_instance

theorem siteGroups_divisor {tb : Tables} {files : Files} {spec : EquipSpec} {d : Dict String}
    (hint : spec.Integral) {g : String × Row × Rat} (hg : g ∈ siteGroups tb files spec d) :
    g.2.2 = ((siteGroups tb files spec d).length : Rat) := by
  cases spec with
  | named raw =>
    simp only [siteGroups, List.mem_map, List.length_map] at hg ⊢
    obtain ⟨n, _, rfl⟩ := hg
    rfl
  | count q =>
    by_cases hq : q = 0
    · subst hq
      simp only [siteGroups, if_true, List.mem_singleton, List.length_singleton] at hg ⊢
      rw [hg]; rfl
    · simp only [siteGroups, hq, if_false, List.mem_map, List.length_map, List.length_range] at hg ⊢
      obtain ⟨i, _, rfl⟩ := hg
      exact hint
  | bad => simp [siteGroups] at hg

end LdarModel.Propagate
