import LdarModel.Model.Units
import Mathlib.Tactic.Ring
import Mathlib.Tactic.FieldSimp
import Mathlib.Tactic.Linarith
/-
Lemmas for the unit converter.  Every stage of `gas_convert` acts on the quantity passing through it
as a `Stage`; one pass over the four stage functions gives linearity, positivity and definedness of
`convertD`.  `SIUpTo` is what unit invariance on the SI-defined units needs of a table.
-/
namespace LdarModel.Units

theorem sdiv_some {a b : Rat} (h : b ≠ 0) : sdiv a b = some (a / b) := if_neg h

theorem sdiv_eq_some {a b x : Rat} (h : sdiv a b = some x) : b ≠ 0 ∧ x = a / b := by
  unfold sdiv at h
  split at h
  · cases h
  · exact ⟨‹_›, (Option.some.inj h).symm⟩

theorem lookupM_mem {l : List Metric} {k : String} {m : Metric} (h : lookupM l k = some m) : m ∈ l :=
  List.mem_of_find?_eq_some h

theorem lookupR_pos {l : List (String × Rat)} {k : String} {x : Rat} (hl : ∀ e ∈ l, 0 < e.2)
    (h : lookupR l k = some x) : 0 < x := by
  obtain ⟨e, he, rfl⟩ := Option.map_eq_some_iff.mp h
  exact hl e (List.mem_of_find?_eq_some he)

theorem capAt_eq_min (cap x : Rat) : capAt cap x = min cap x := by
  unfold capAt
  split
  · exact (min_eq_left (le_of_lt ‹_›)).symm
  · exact (min_eq_right (not_lt.mp ‹_›)).symm

theorem capAt_le (cap x : Rat) : capAt cap x ≤ cap :=
  capAt_eq_min cap x ▸ min_le_left cap x

theorem capAt_le_self (cap x : Rat) : capAt cap x ≤ x :=
  capAt_eq_min cap x ▸ min_le_right cap x

theorem capAt_scale (k cap x : Rat) (hk : 0 ≤ k) : capAt (k * cap) (k * x) = k * capAt cap x := by
  simp only [capAt_eq_min, mul_min_of_nonneg _ _ hk]

/-- `f` multiplies by a constant or fails on every input; under `P` the constant is positive, under
`P` and `K` it exists -/
structure Stage (P K : Prop) (f : Rat → Option Rat) : Prop where
  scale : ∀ c x, f (c * x) = (f x).map (c * ·)
  pos : P → ∀ x y, 0 < x → f x = some y → 0 < y
  defined : P → K → ∀ x, (f x).isSome

namespace Stage
variable {P K : Prop} {f g : Rat → Option Rat}

protected theorem id : Stage P K some :=
  ⟨fun _ _ => rfl, fun _ _ _ hx h => Option.some.inj h ▸ hx, fun _ _ _ => rfl⟩

theorem sdiv (d : Rat) (hd : P → 0 < d) : Stage P K (sdiv · d) where
  scale c x := by
    unfold Units.sdiv
    split
    · rfl
    · exact congrArg some (mul_div_assoc c x d)
  pos hP x y hx h := (sdiv_eq_some h).2 ▸ div_pos hx (hd hP)
  defined hP _ x := by rw [sdiv_some (hd hP).ne']; rfl

theorem comp (hf : Stage P K f) {u : Rat → Rat} (n : Rat) (hu : ∀ x, u x = x * n) (hn : P → 0 < n) :
    Stage P K fun x => f (u x) where
  scale c x := by rw [hu, hu, mul_assoc, hf.scale]
  pos hP x y hx h := hf.pos hP _ y (hu x ▸ mul_pos hx (hn hP)) h
  defined hP hK x := hf.defined hP hK _

theorem bind (hf : Stage P K f) (hg : Stage P K g) : Stage P K fun x => (f x).bind g where
  scale c x := by
    rw [hf.scale, Option.bind_map, Option.map_bind]
    exact congrArg _ (funext fun y => hg.scale c y)
  pos hP x z hx h := by
    obtain ⟨y, hy, hz⟩ := Option.bind_eq_some_iff.mp h
    exact hg.pos hP y z (hf.pos hP x y hx hy) hz
  defined hP hK x := by
    obtain ⟨y, hy⟩ := Option.isSome_iff_exists.mp (hf.defined hP hK x)
    rw [hy]
    exact hg.defined hP hK y

theorem lookup {α : Type} {o : Option α} {f : α → Rat → Option Rat}
    (h : ∀ v, o = some v → Stage P K (f v)) (hk : K → o.isSome) :
    Stage P K fun x => o.bind (f · x) := by
  cases o with
  | none => exact ⟨fun _ _ => rfl, fun _ _ _ _ h => (nomatch h), fun _ hK => (nomatch hk hK)⟩
  | some v => exact h v rfl

theorem mono {P' : Prop} (hf : Stage P K f) (h : P' → P) : Stage P' K f :=
  ⟨hf.scale, fun p => hf.pos (h p), fun p => hf.defined (h p)⟩

theorem ite {c : Prop} [Decidable c] (hf : Stage P K f) (hg : Stage P K g) :
    Stage P K fun x => if c then f x else g x := by
  split
  · exact hf
  · exact hg

end Stage

/-- what the positivity argument needs from the call arguments -/
structure PosArgs (T : Table) (a : Args) : Prop where
  gwp : 0 < a.gwp
  ng : 0 < a.ngComp
  pres : ∀ u ∈ T.presUnits, 0 < a.p * u.scale + u.offset
  temp : ∀ u ∈ T.tempUnits, 0 < a.t * u.scale + u.offset

structure Pos (T : Table) : Prop where
  inM : ∀ m ∈ T.inMetrics, 0 < m.perUnit
  outM : ∀ m ∈ T.outMetrics, 0 < m.perUnit
  inc : ∀ e ∈ T.increments, 0 < e.2
  sub : ∀ e ∈ T.substances, 0 < e.2
  gas : 0 < T.gasConstant
  gpt : 0 < T.gramsPerTonne
  args : PosArgs T T.defaults

structure Keys (T : Table) (a : Args) : Prop where
  inMetric : (lookupM T.inMetrics a.inMetric.toLower).isSome
  inInc : (lookupR T.increments a.inIncrement.toLower).isSome
  inSub : (lookupR T.substances a.inSubstance.toLower).isSome
  outMetric : (lookupM T.outMetrics a.outMetric.toLower).isSome
  outInc : (lookupR T.increments a.outIncrement.toLower).isSome
  outSub : (lookupR T.substances a.outSubstance.toLower).isSome
  pres : (pressurePa T a).isSome
  temp : (temperatureK T a).isSome

theorem Pos.withSecond {T : Table} (h : Pos T) {s : Rat} (hs : 0 < s) : Pos (withSecond T s) :=
  { h with
    inc := fun e he => by
      obtain ⟨e', he', rfl⟩ := List.mem_map.mp he
      split
      · exact hs
      · exact h.inc e' he'
    args := ⟨h.args.gwp, h.args.ng, h.args.pres, h.args.temp⟩ }

section stages
variable {T : Table} {a : Args} {v : Rat}

/-- pressure in Pa and temperature in K, as `pressurePa` and `temperatureK` compute them -/
theorem affine_pos {l : List Affine} {k : String} {x : Rat} (hl : ∀ u ∈ l, 0 < x * u.scale + u.offset)
    (h : (lookupA l k).map (fun f => x * f.scale + f.offset) = some v) : 0 < v := by
  obtain ⟨u, hu, rfl⟩ := Option.map_eq_some_iff.mp h
  exact hl u (List.mem_of_find?_eq_some hu)

variable (T a)

theorem inMassTpy_stage :
    Stage (Pos T ∧ PosArgs T a) (Keys T a) fun q => inMassTpy T { a with q := q } := by
  unfold inMassTpy pressurePa temperatureK
  dsimp only
  refine .lookup (fun μ hμ => .ite ?_ ?_) (·.inMetric)
  · -- mass: `q * inc / perUnit`
    refine .lookup (fun inc hinc => ?_) (·.inInc)
    exact (Stage.sdiv _ fun h => h.1.inM μ (lookupM_mem hμ)).comp inc (fun _ => rfl)
      fun h => lookupR_pos h.1.inc hinc
  · -- volume: `q / perUnit`, `· * ppa * n / (tk * R)`, `· * inc / gramsPerTonne`
    refine .lookup (fun ppa hppa => ?_) (·.pres)
    refine .lookup (fun tk htk => ?_) (·.temp)
    refine .bind (.sdiv _ fun h => h.1.inM μ (lookupM_mem hμ)) ?_
    refine .lookup (fun n hn => ?_) (·.inSub)
    refine .bind ((Stage.sdiv _ fun h => mul_pos (affine_pos h.2.temp htk) h.1.gas).comp (ppa * n)
      (fun _ => mul_assoc _ _ _) fun h => mul_pos (affine_pos h.2.pres hppa) (lookupR_pos h.1.sub hn)) ?_
    refine .lookup (fun inc hinc => ?_) (·.inInc)
    exact (Stage.sdiv _ fun h => h.1.gpt).comp inc (fun _ => rfl) fun h => lookupR_pos h.1.inc hinc

theorem co2e_eq_mul : ∃ n, (PosArgs T a → 0 < n) ∧ ∀ x, co2e a x = x * n := by
  unfold co2e
  split
  · exact ⟨1, fun _ => one_pos, fun x => (mul_one x).symm⟩
  · split
    · exact ⟨a.gwp, (·.gwp), fun _ => rfl⟩
    · exact ⟨a.gwp * a.ngComp, fun h => mul_pos h.gwp h.ng, fun _ => mul_assoc _ _ _⟩

theorem outMassTpy_stage : Stage (Pos T ∧ PosArgs T a) (Keys T a) (outMassTpy a) :=
  .ite .id <| .ite (.sdiv _ (·.2.gwp)) <| .bind (.sdiv _ (·.2.gwp)) (.sdiv _ (·.2.ng))

theorem outQuantity_stage : Stage (Pos T ∧ PosArgs T a) (Keys T a) (outQuantity T a) := by
  unfold outQuantity
  refine .lookup (fun μ hμ => .ite ?_ ?_) (·.outMetric)
  · -- mass: `tpy * perUnit / inc`
    refine .lookup (fun inc hinc => ?_) (·.outInc)
    exact (Stage.sdiv _ fun h => lookupR_pos h.1.inc hinc).comp μ.perUnit (fun _ => rfl)
      fun h => h.1.outM μ (lookupM_mem hμ)
  · -- volume: `tpy * gramsPerTonne / inc`, `· * R * tk / (n * ppa)`, `· * perUnit`
    refine .lookup (fun ppa hppa => ?_) (·.pres)
    refine .lookup (fun tk htk => ?_) (·.temp)
    refine .lookup (fun inc hinc => ?_) (·.outInc)
    refine .bind ((Stage.sdiv _ fun h => lookupR_pos h.1.inc hinc).comp _ (fun _ => rfl) (·.1.gpt)) ?_
    refine .lookup (fun n hn => ?_) (·.outSub)
    refine .bind ((Stage.sdiv _ fun h => mul_pos (lookupR_pos h.1.sub hn) (affine_pos h.2.pres hppa)).comp
      (T.gasConstant * tk) (fun _ => mul_assoc _ _ _) fun h => mul_pos h.1.gas (affine_pos h.2.temp htk)) ?_
    exact Stage.id.comp μ.perUnit (fun _ => rfl) fun h => h.1.outM μ (lookupM_mem hμ)

theorem gasConvert_stage :
    Stage (Pos T ∧ PosArgs T a) (Keys T a) fun q => gasConvert T { a with q := q } := by
  obtain ⟨n, hn, hco⟩ := co2e_eq_mul T a
  exact .bind (inMassTpy_stage T a) <|
    .bind ((outMassTpy_stage T a).comp n hco (hn ·.2)) (outQuantity_stage T a)

end stages

theorem convertD_stage (T : Table) (m i : String) :
    Stage (Pos T) (Keys T { T.defaults with inMetric := m, inIncrement := i }) (convertD T m i) :=
  (gasConvert_stage T { T.defaults with inMetric := m, inIncrement := i }).mono fun h =>
    ⟨h, h.args.gwp, h.args.ng, h.args.pres, h.args.temp⟩

theorem convertD_scale (T : Table) (m i : String) (c q : Rat) :
    convertD T m i (c * q) = (convertD T m i q).map (c * ·) :=
  (convertD_stage T m i).scale c q

/-- the conversion factor of a unit: what one unit per increment is in the output unit -/
def factor (T : Table) (m i : String) : Option Rat := convertD T m i 1

theorem convertD_eq_factor (T : Table) (m i : String) (q : Rat) :
    convertD T m i q = (factor T m i).map (q * ·) := by
  rw [factor, ← convertD_scale, mul_one]

theorem factor_pos {T : Table} (hP : Pos T) {m i : String} {f : Rat} (h : factor T m i = some f) :
    0 < f :=
  (convertD_stage T m i).pos hP 1 f one_pos h

theorem factor_defined {T : Table} (hP : Pos T) {m i : String}
    (hK : Keys T { T.defaults with inMetric := m, inIncrement := i }) :
    ∃ f, factor T m i = some f ∧ 0 < f := by
  obtain ⟨f, hf⟩ := Option.isSome_iff_exists.mp ((convertD_stage T m i).defined hP hK 1)
  exact ⟨f, hf, factor_pos hP hf⟩

section si
variable {m i : String} {g s q x : Rat}

theorem siGrams_cases (h : siGrams m = some g) :
    (m = "gram" ∧ g = 1) ∨ (m = "kilogram" ∧ g = 1000) ∨ (m = "tonne" ∧ g = 1000000) := by
  unfold siGrams at h
  split_ifs at h <;> cases h <;> simp only [*, and_self, true_or, or_true]

theorem siSeconds_cases (h : siSeconds i = some s) :
    (i = "second" ∧ s = 1) ∨ (i = "minute" ∧ s = 60) ∨ (i = "hour" ∧ s = 3600)
      ∨ (i = "day" ∧ s = 86400) := by
  unfold siSeconds at h
  split_ifs at h <;> cases h <;> simp only [*, and_self, true_or, or_true]

theorem siGrams_pos (h : siGrams m = some g) : 0 < g := by
  rcases siGrams_cases h with ⟨_, rfl⟩ | ⟨_, rfl⟩ | ⟨_, rfl⟩ <;> norm_num

theorem siSeconds_pos (h : siSeconds i = some s) : 0 < s := by
  rcases siSeconds_cases h with ⟨_, rfl⟩ | ⟨_, rfl⟩ | ⟨_, rfl⟩ | ⟨_, rfl⟩ <;> norm_num

/-- `gas_convert` lowers the unit names it is given; the names used here are lower-case already -/
theorem toLower_si : ∀ s ∈ ["gram", "kilogram", "tonne", "second", "minute", "hour", "day", "methane"],
    s.toLower = s := by decide +kernel

theorem siGrams_toLower (h : siGrams m = some g) : m.toLower = m := by
  rcases siGrams_cases h with ⟨rfl, _⟩ | ⟨rfl, _⟩ | ⟨rfl, _⟩ <;> exact toLower_si _ (by simp)

theorem siSeconds_toLower (h : siSeconds i = some s) : i.toLower = i := by
  rcases siSeconds_cases h with ⟨rfl, _⟩ | ⟨rfl, _⟩ | ⟨rfl, _⟩ | ⟨rfl, _⟩ <;>
    exact toLower_si _ (by simp)

theorem toUnit_of (hg : siGrams m = some g) (hs : siSeconds i = some s) (q : Rat) :
    toUnit m i q = some (s / g * q) := by
  simp only [toUnit, hg, hs, Option.bind_eq_bind, Option.bind_some, div_mul_eq_mul_div, mul_comm s]

theorem toUnit_eq_some (h : toUnit m i q = some x) :
    ∃ g s, siGrams m = some g ∧ siSeconds i = some s ∧ x = s / g * q := by
  unfold toUnit at h
  obtain ⟨g, hg, h⟩ := Option.bind_eq_some_iff.mp h
  obtain ⟨s, hs, h⟩ := Option.bind_eq_some_iff.mp h
  exact ⟨g, s, hg, hs, by rw [← Option.some.inj h]; ring⟩

theorem toUnit_capAt {cap xc xx : Rat} (hc : toUnit m i cap = some xc)
    (hx : toUnit m i x = some xx) : toUnit m i (capAt cap x) = some (capAt xc xx) := by
  obtain ⟨g, s, hg, hs, rfl⟩ := toUnit_eq_some hc
  rw [toUnit_of hg hs] at hx ⊢
  cases hx
  rw [capAt_scale _ _ _ (div_pos (siSeconds_pos hs) (siGrams_pos hg)).le]

end si

/-- `T` tabulates the SI mass units and the fixed-length time units in the ratios `siGrams` and
`siSeconds` give them, the time units up to a factor `k i`, and the defaults of `gas_convert` are
methane in, methane out, gram per second out.  `Consistent T` is the case `k = 1`; the table of the
source tree has another `k`. -/
structure SIUpTo (T : Table) (k : String → Rat) : Prop where
  names : T.gramName = "gram" ∧ T.secondName = "second"
  defaults : T.defaults.inSubstance = "methane" ∧ T.defaults.outSubstance = "methane"
    ∧ T.defaults.outMetric = "gram" ∧ T.defaults.outIncrement = "second"
  gwp : T.defaults.gwp ≠ 0
  second : k "second" = 1
  mass : ∃ og, lookupM T.outMetrics "gram" = some og ∧ og.isMass = true ∧ og.perUnit ≠ 0 ∧
    ∀ m g, siGrams m = some g →
      ∃ μ, lookupM T.inMetrics m = some μ ∧ μ.isMass = true ∧ μ.perUnit * g = og.perUnit
  time : ∃ sec, lookupR T.increments "second" = some sec ∧ sec ≠ 0 ∧
    ∀ i s, siSeconds i = some s → ∃ inc, lookupR T.increments i = some inc ∧ inc * s = k i * sec

namespace SIUpTo
variable {T : Table} {k : String → Rat} {m i : String} {q x : Rat}

theorem convertD (h : SIUpTo T k) (hx : toUnit m i q = some x) : convertD T m i x = some (k i * q) := by
  obtain ⟨g, s, hg, hs, rfl⟩ := toUnit_eq_some hx
  obtain ⟨og, hog, hogm, hog0, hm⟩ := h.mass
  obtain ⟨sec, hsec, hsec0, hi⟩ := h.time
  obtain ⟨μ, hμ, hμm, hμg⟩ := hm m g hg
  obtain ⟨inc, hinc, hk⟩ := hi i s hs
  obtain ⟨d1, d2, d3, d4⟩ := h.defaults
  have hμ0 : μ.perUnit ≠ 0 := left_ne_zero_of_mul (hμg ▸ hog0)
  have hne : "methane" ≠ "carbon dioxide" := by decide
  -- along the all-mass branches the conversion is `x · inc / μ · gwp / gwp · og / sec`
  simp only [Units.convertD, gasConvert, inMassTpy, co2e, outMassTpy, outQuantity, d1, d2, d3, d4,
    siGrams_toLower hg, siSeconds_toLower hs, toLower_si "gram", toLower_si "second",
    toLower_si "methane", List.mem_cons, true_or, or_true, hμ, hog, hinc, hsec, hμm, hogm, hne,
    sdiv_some hμ0, sdiv_some h.gwp, sdiv_some hsec0, Option.bind_eq_bind, Option.bind_some, ↓reduceIte,
    Option.some.injEq]
  rw [← hμg]
  -- `field_simp` clears the denominators `μ.perUnit`, `sec` (nonzero above), `g` and `gwp`
  have hg0 : g ≠ 0 := (siGrams_pos hg).ne'
  have hgwp := h.gwp
  field_simp
  rw [show s * q * inc = q * (inc * s) by ring, hk]
  ring

theorem unitConversion (h : SIUpTo T k) (hx : toUnit m i q = some x) :
    unitConversion T m i x = some (k i * q) := by
  unfold Units.unitConversion
  split
  · next hmi =>
    rw [h.names.1, h.names.2] at hmi
    obtain ⟨rfl, rfl⟩ := hmi
    have : toUnit "gram" "second" q = some q := by simp [toUnit, siGrams, siSeconds]
    rw [Option.some.inj (hx.symm.trans this), h.second, one_mul]
  · exact h.convertD hx

theorem rates (h : SIUpTo T k) (hk : 0 ≤ k i) {s cap xs xc : Rat} (hs : toUnit m i s = some xs)
    (hc : toUnit m i cap = some xc) :
    sampleRate T m i xs xc = some (k i * capAt cap s)
      ∧ distRate T m i xs xc = some (k i * capAt cap s) := by
  constructor
  · simp only [sampleRate, h.unitConversion hs, h.unitConversion hc, Option.bind_eq_bind,
      Option.bind_some, capAt_scale _ _ _ hk]
  · exact h.convertD (toUnit_capAt hc hs)

end SIUpTo

theorem Consistent.si {T : Table} (hC : Consistent T) : SIUpTo T fun _ => 1 := by
  unfold Consistent at hC
  split at hC
  case h_2 => exact hC.elim
  rename_i g k t og s mi h d hg hk ht hog hs hmi hh hd
  obtain ⟨⟨gm, km, tm, ogm⟩, ⟨hgk, hkt, hogg, ht0⟩, ⟨hs1, hs2, hs3, hd0⟩, hgwp, hdef, hnames⟩ :=
    hC
  refine ⟨hnames, hdef, hgwp, rfl, ⟨og, hog, ogm, ?_, fun m x hx => ?_⟩,
    ⟨s, hs, ?_, fun i x hx => ?_⟩⟩
  · rw [hogg, hgk, hkt]
    exact mul_ne_zero (by norm_num) (mul_ne_zero (by norm_num) ht0)
  · rcases siGrams_cases hx with ⟨rfl, rfl⟩ | ⟨rfl, rfl⟩ | ⟨rfl, rfl⟩
    exacts [⟨g, hg, gm, by rw [hogg, mul_one]⟩, ⟨k, hk, km, by rw [hogg, hgk, mul_comm]⟩,
      ⟨t, ht, tm, by rw [hogg, hgk, hkt]; ring⟩]
  · rw [hs1, hs2, hs3]
    exact mul_ne_zero (by norm_num) (mul_ne_zero (by norm_num) (mul_ne_zero (by norm_num) hd0))
  · rcases siSeconds_cases hx with ⟨rfl, rfl⟩ | ⟨rfl, rfl⟩ | ⟨rfl, rfl⟩ | ⟨rfl, rfl⟩
    exacts [⟨s, hs, by ring⟩, ⟨mi, hmi, by rw [hs1]; ring⟩, ⟨h, hh, by rw [hs1, hs2]; ring⟩,
      ⟨d, hd, by rw [hs1, hs2, hs3]; ring⟩]

end LdarModel.Units
