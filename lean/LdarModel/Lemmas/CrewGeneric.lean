import Mathlib.Tactic.Linarith
import Mathlib.Tactic.Ring
import Mathlib.Algebra.Order.Field.Basic
import LdarModel.Model.Crew
/-
How the integer minutes of `Model/Crew.lean` cover fractional ones (daylight hours are fractional, so the
crew's minutes are when a method is daylight sensitive).  `stepG` is the same three-way decision as
`Crew.surveyStep` (mobile deployment) over any linearly ordered field (ℚ, ℝ); `stepG_int` shows it is
literally `surveyStep` on `Int`.  The second half: the integer model is homogeneous in the unit of time.
-/
namespace LdarModel.Crew

section Field

structure StepG (α : Type) where
  rem : α
  surveyed : α
  travel : α
  today : α
  reached : Bool     -- complete or partial: the crew travelled to the site
  complete : Bool
  last : Bool

variable {α : Type} [Field α] [LinearOrder α] [IsStrictOrderedRing α]

/-- `Method.survey_site` (mobile) over `α` -/
def stepG (R S T P : α) (workable : Bool) : StepG α :=
  if !workable then
    { rem := R, surveyed := P, travel := 0, today := 0, reached := false, complete := false, last := false }
  else if R ≥ S + T * 2 - P then
    { rem := R - T - (S - P), surveyed := S, travel := T, today := S - P, reached := true,
      complete := true, last := decide (R - T - (S - P) ≤ T) }
  else if R > 2 * T then
    { rem := T, surveyed := P + (R - T * 2), travel := T, today := R - T * 2, reached := true,
      complete := false, last := true }
  else
    { rem := R, surveyed := P, travel := 0, today := 0, reached := false, complete := false, last := true }

theorem stepG_budget (R S T P : α) (hR : 0 ≤ R) (hT : 0 ≤ T) (hPS : P ≤ S) (w : Bool) :
    let o := stepG R S T P w
    o.rem + o.travel + o.today = R ∧ 0 ≤ o.rem ∧ 0 ≤ o.travel ∧ 0 ≤ o.today ∧
    (o.reached = true → o.travel ≤ o.rem) := by
  unfold stepG
  split_ifs with hw h1 h2
  · simp [hR]
  · -- complete: the guard says that after travel and survey the travel time is still left
    have key : T ≤ R - T - (S - P) := by linarith
    exact ⟨by ring, le_trans hT key, hT, sub_nonneg.2 hPS, fun _ => key⟩
  · exact ⟨by ring, hT, hT, by linarith, fun _ => le_refl _⟩
  · simp [hR]

/-- minutes on the report stay within `[P, S]`, reach `S` exactly at completion -/
theorem stepG_surveyed (R S T P : α) (hPS : P ≤ S) (w : Bool) :
    let o := stepG R S T P w
    o.surveyed = P + o.today ∧ o.surveyed ≤ S ∧ (o.complete = true → o.surveyed = S) := by
  unfold stepG
  split_ifs with hw h1 h2
  · simp [hPS]
  · exact ⟨by ring, le_refl _, fun _ => rfl⟩
  · exact ⟨rfl, by linarith, by simp⟩
  · simp [hPS]

/-- the integer model is the restriction of `stepG`: on integer inputs embedded in `ℚ` it gives,
field by field, the outputs of `surveyStep` for a mobile method -/
theorem stepG_int (R S T P : Int) (w : Bool) :
    let o := surveyStep R S T P false w
    let g := stepG (R : ℚ) S T P w
    g.rem = o.rem ∧ g.surveyed = o.surveyed ∧ g.travel = o.travel ∧ g.today = o.today ∧
    g.complete = o.complete ∧ g.last = o.last := by
  have e1 : ((R : ℚ) ≥ (S : ℚ) + (T : ℚ) * 2 - (P : ℚ)) ↔ (R ≥ S + T * 2 - P) := by norm_cast
  have e2 : ((R : ℚ) > 2 * (T : ℚ)) ↔ (R > 2 * T) := by norm_cast
  have e3 : ((R : ℚ) - T - (S - P) ≤ T) ↔ (R - T - (S - P) ≤ T) := by norm_cast
  simp only [stepG, surveyStep, effS, effT, e1, e2, e3, Bool.false_eq_true, if_false, false_or]
  split_ifs <;> simp

/-- `get_daylight_hours` × 60 over `α` (hours may be fractional) -/
def dayBudgetG (considerDaylight : Bool) (workdayH daylightH : α) : α :=
  (if considerDaylight then (if workdayH < daylightH then workdayH else daylightH) else workdayH) * 60

omit [IsStrictOrderedRing α] in
theorem dayBudgetG_eq (w d : α) :
    dayBudgetG true w d = 60 * min w d ∧ dayBudgetG false w d = 60 * w := by
  unfold dayBudgetG
  refine ⟨?_, by simp [mul_comm]⟩
  simp only [if_true]
  split
  · rename_i h; rw [min_eq_left (le_of_lt h)]; ring
  · rename_i h; rw [min_eq_right (le_of_not_gt h)]; ring

end Field

/-! ### homogeneity: the model does not care about the unit of time

Multiplying every time quantity by `k > 0` multiplies every time output by `k` and changes no
decision.  Rational minutes with common denominator `q` are therefore covered by the integer theorems
applied to the instance measured in units of `1/q` minute (this is also how the fractional-daylight
correspondence feeds the driver). -/

def scaleOut (k : Int) (o : StepOut) : StepOut :=
  { o with rem := k * o.rem, surveyed := k * o.surveyed, travel := k * o.travel, today := k * o.today }

theorem surveyStep_scale (k : Int) (hk : 0 < k) (R S T P : Int) (st w : Bool) :
    surveyStep (k * R) (k * S) (k * T) (k * P) st w = scaleOut k (surveyStep R S T P st w) := by
  have hle : ∀ a b : Int, k * a ≤ k * b ↔ a ≤ b := fun a b =>
    ⟨fun h => le_of_mul_le_mul_left h hk, fun h => Int.mul_le_mul_of_nonneg_left h hk.le⟩
  have hS : effS st (k * S) = k * effS st S := by cases st <;> simp [effS]
  have hT : effT st (k * T) = k * effT st T := by cases st <;> simp [effT]
  -- the two guards and the `last` test compare multiples of `k`
  have e1 : k * R ≥ k * effS st S + k * effT st T * 2 - k * P ↔ R ≥ effS st S + effT st T * 2 - P := by
    rw [show k * effS st S + k * effT st T * 2 - k * P = k * (effS st S + effT st T * 2 - P) by ring]
    exact hle _ _
  have e2 : k * R > 2 * (k * effT st T) ↔ R > 2 * effT st T := by
    rw [show 2 * (k * effT st T) = k * (2 * effT st T) by ring, gt_iff_lt, gt_iff_lt, ← not_le, ← not_le, hle]
  have e3 : k * R - k * effT st T - (k * effS st S - k * P) ≤ k * effT st T
      ↔ R - effT st T - (effS st S - P) ≤ effT st T := by
    rw [show k * R - k * effT st T - (k * effS st S - k * P) = k * (R - effT st T - (effS st S - P)) by ring]
    exact hle _ _
  simp only [surveyStep, scaleOut, hS, hT, e1, e2, e3]
  -- unworkable and no-time arms return `R`, `P` and zeros; in the other two the outputs are linear
  split_ifs
  · simp only [mul_zero]
  · congr 1 <;> ring
  · congr 1 <;> ring
  · simp only [mul_zero]

/-! ### the whole day is homogeneous too -/

def scaleReport (k : Int) (r : Report) : Report :=
  { r with surveyed := k * r.surveyed, today := k * r.today, travel := k * r.travel }
def scaleReq (k : Int) (r : Req) : Req := { r with S := k * r.S, T := k * r.T, rep := scaleReport k r.rep }
def scaleCrew (k : Int) (c : CrewSt) : CrewSt := { c with rem := k * c.rem, spent := k * c.spent, home := k * c.home }
def scaleStats (k : Int) (s : Stats) : Stats :=
  { s with travel := k * s.travel, survey := k * s.survey, wpTravel := k * s.wpTravel }
def scaleRec (k : Int) (o : OutRec) : OutRec :=
  { req := scaleReq k o.req, rep := scaleReport k o.rep, crew := o.crew, step := o.step.map (scaleOut k),
    rBefore := k * o.rBefore }
def scaleDay (k : Int) (d : DaySt) : DaySt :=
  { crews := d.crews.map (scaleCrew k), stats := scaleStats k d.stats, out := d.out.map (scaleRec k) }

theorem applyStep_scale (k : Int) (rep : Report) (o : StepOut) :
    applyStep (scaleReport k rep) (scaleOut k o) = scaleReport k (applyStep rep o) := by
  unfold applyStep scaleReport scaleOut
  cases o.branch <;> simp <;> ring

theorem better_scale (k : Int) (hk : 0 < k) (a b : CrewSt) :
    better (scaleCrew k a) (scaleCrew k b) = better a b := by
  have hlt : k * b.rem < k * a.rem ↔ b.rem < a.rem :=
    ⟨fun h => lt_of_mul_lt_mul_left h hk.le, fun h => Int.mul_lt_mul_of_pos_left h hk⟩
  have heq : k * a.rem = k * b.rem ↔ a.rem = b.rem :=
    ⟨fun h => Int.eq_of_mul_eq_mul_left (ne_of_gt hk) h, fun h => by rw [h]⟩
  unfold better scaleCrew
  simp only [gt_iff_lt]
  rw [decide_eq_decide.2 hlt, decide_eq_decide.2 heq]

theorem pick_scale (k : Int) (hk : 0 < k) (cs : List CrewSt) :
    pick (cs.map (scaleCrew k)) = (pick cs).map (scaleCrew k) := by
  induction cs with
  | nil => rfl
  | cons c cs ih =>
    simp only [List.map_cons, pick, ih]
    cases hp : pick cs with
    | none => simp only [Option.map_none]; cases hq : c.queued <;> simp [scaleCrew, hq]
    | some d =>
      simp only [Option.map_some]
      rw [better_scale k hk c d]
      have : (scaleCrew k c).queued = c.queued := rfl
      rw [this]
      cases (c.queued && better c d) <;> simp

theorem charge_scale (k : Int) (p : MethodP) (r : Req) (rep : Report) :
    chargeIfComplete p (scaleReq k r) (scaleReport k rep) = chargeIfComplete p r rep := rfl

theorem crewAfter_scale (k : Int) (hk : 0 < k) (c : CrewSt) (o : StepOut) :
    crewAfter (scaleCrew k c) (scaleOut k o) = scaleCrew k (crewAfter c o) := by
  have hpos : ∀ x : Int, (0 < k * x) ↔ 0 < x := fun x => mul_pos_iff_of_pos_left hk
  unfold crewAfter scaleCrew scaleOut
  cases o.last <;> simp [hpos, mul_add, mul_ite]

theorem replaceCrew_scale (k : Int) (c' : CrewSt) (cs : List CrewSt) :
    replaceCrew (scaleCrew k c') (cs.map (scaleCrew k)) = (replaceCrew c' cs).map (scaleCrew k) := by
  simp only [replaceCrew, List.map_map]
  exact List.map_congr_left fun c _ => by
    show (if c.id = c'.id then _ else _) = scaleCrew k (if c.id = c'.id then _ else _)
    split <;> rfl

theorem serve_scale (k : Int) (hk : 0 < k) (p : MethodP) (st : DaySt) (r : Req) :
    serve p (scaleDay k st) (scaleReq k r) = scaleDay k (serve p st r) := by
  unfold serve
  simp only [scaleDay, pick_scale k hk]
  cases hp : pick st.crews with
  | none => simp [scaleStats, scaleRec]; exact ⟨rfl, rfl⟩
  | some c =>
    have hs : surveyStep (scaleCrew k c).rem (scaleReq k r).S (scaleReq k r).T (scaleReq k r).rep.surveyed
        p.stationary (workable p (scaleReq k r))
        = scaleOut k (surveyStep c.rem r.S r.T r.rep.surveyed p.stationary (workable p r)) :=
      surveyStep_scale k hk _ _ _ _ _ _
    have hrep : (scaleReq k r).rep = scaleReport k r.rep := rfl
    simp only [Option.map_some]
    rw [hs, hrep, applyStep_scale, crewAfter_scale k hk, replaceCrew_scale, charge_scale]
    generalize surveyStep c.rem r.S r.T r.rep.surveyed p.stationary (workable p r) = o
    cases hv : o.visited <;> cases hl : o.last <;>
      simp [hv, hl, scaleStats, scaleRec, scaleOut, scaleReport, scaleCrew, mul_add]

theorem serveAll_scale (k : Int) (hk : 0 < k) (p : MethodP) (reqs : List Req) (st : DaySt) :
    serveAll p (scaleDay k st) (reqs.map (scaleReq k)) = scaleDay k (serveAll p st reqs) := by
  induction reqs generalizing st with
  | nil => rfl
  | cons r rs ih =>
    simp only [serveAll, List.map_cons, List.foldl_cons] at ih ⊢
    rw [serve_scale k hk, ih]

theorem countDeployed_scale (k : Int) (cs : List CrewSt) :
    countDeployed (cs.map (scaleCrew k)) = countDeployed cs := by
  unfold countDeployed
  rw [List.filter_map, List.length_map]
  rfl

theorem finalize_scale (k : Int) (p : MethodP) (n : Nat) (st : DaySt) :
    finalize p n (scaleDay k st) = scaleDay k (finalize p n st) := by
  unfold finalize
  cases p.perSite <;> cases p.stationary <;> simp [scaleDay, scaleStats, countDeployed_scale]

theorem initCrews_scale (k budget : Int) (n : Nat) :
    initCrews (k * budget) n = (initCrews budget n).map (scaleCrew k) := by
  simp [initCrews, scaleCrew, Function.comp_def]

/-- **the crew day is homogeneous in the unit of time**: multiplying the budget and every survey /
travel / already-surveyed time of the plan by `k > 0` multiplies every time output by `k` and changes
no decision (who is sent where, what completes, what is charged) -/
theorem deployDay_scale (k : Int) (hk : 0 < k) (p : MethodP) (budget : Int) (n : Nat) (reqs : List Req) :
    deployDay p (k * budget) n (reqs.map (scaleReq k)) = scaleDay k (deployDay p budget n reqs) := by
  unfold deployDay
  have h0 : ({ crews := initCrews (k * budget) n } : DaySt) = scaleDay k { crews := initCrews budget n } := by
    simp [scaleDay, initCrews_scale, scaleStats]
  rw [h0, serveAll_scale k hk, List.length_map, finalize_scale]

end LdarModel.Crew
