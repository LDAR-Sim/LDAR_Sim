import LdarModel.Lemmas.Emission
/-
Detection-only events are invisible to the life-cycle: `runE` over mixed events and `run` over the
tag requests among them agree on every field except `initDetect` / `initDetectBy` (`runE_tproj`).
`runE_eq` is the form in which the theorems about `run` are carried over to `runE`.
-/
namespace LdarModel.Emission

/-- everything but the two "initially detected" fields -/
def tproj (s : State) : Status × Int × Bool × Int × Int × By × Option Int × Bool × Int × Int × Int :=
  (s.status, s.activeDays, s.tagged, s.dst, s.trd, s.by_, s.endDate, s.emitting, s.daysEmitting,
   s.onCount, s.offCount)

theorem tproj_eq_iff (s s' : State) : tproj s = tproj s' ↔
    (s.status = s'.status ∧ s.activeDays = s'.activeDays ∧ s.tagged = s'.tagged ∧ s.dst = s'.dst ∧
     s.trd = s'.trd ∧ s.by_ = s'.by_ ∧ s.endDate = s'.endDate ∧ s.emitting = s'.emitting ∧
     s.daysEmitting = s'.daysEmitting ∧ s.onCount = s'.onCount ∧ s.offCount = s'.offCount) := by
  unfold tproj; simp only [Prod.mk.injEq]

theorem tag_tproj (p : Params) (d : Int) (e : TagEv) (s s' : State) (h : tproj s = tproj s') :
    tproj (tag p d e s) = tproj (tag p d e s') := by
  rw [tproj_eq_iff] at *
  unfold tag detectRec; grind

theorem detect_tproj (d : Int) (c : Nat) (s : State) :
    tproj (if s.status = .active then detectRec d c s else s) = tproj s := by
  rw [tproj_eq_iff]; unfold detectRec; grind

theorem activate_tproj (p : Params) (d : Int) (s s' : State) (h : tproj s = tproj s') :
    tproj (activate p d s) = tproj (activate p d s') := by
  rw [tproj_eq_iff] at *
  unfold activate; grind

/-- `toggle` reads and writes only its four automaton fields, so it respects any projection that keeps
or drops them together (`tproj` here; `obs`, `iproj` in Props/C03), and `update` with it -/
theorem toggle_tproj (p : Params) (s s' : State) (h : tproj s = tproj s') :
    tproj (toggle p s) = tproj (toggle p s') := by
  rw [tproj_eq_iff] at h
  obtain ⟨h1, h2, h3, h4, h5, h6, h7, h8, h9, h10, h11⟩ := h
  unfold toggle
  simp only [apply_ite tproj]
  simp only [tproj, h1, h2, h3, h4, h5, h6, h7, h8, h9, h10, h11]

theorem update_tproj (p : Params) (s s' : State) (h : tproj s = tproj s') :
    tproj (update p s) = tproj (update p s') := by
  have h' := (tproj_eq_iff s s').1 h
  obtain ⟨h1, h2, h3, h4, h5, h6, h7, h8, h9, h10, h11⟩ := h'
  have hc : tproj (counted p s) = tproj (counted p s') := by
    simp only [tproj, h1, h2, h3, h4, h5, h6, h7, h8, h9, h10, h11]
  rw [update_eq, update_eq p s']
  simp only [apply_ite tproj, toggle_tproj p _ _ hc]
  simp only [tproj, endedAt, h1, h2, h3, h4, h5, h6, h7, h8, h9, h10, h11]

theorem events_tproj (p : Params) (d : Int) (evs : List Ev) (s s' : State) (h : tproj s = tproj s') :
    tproj (evs.foldl (fun s e => applyEv p d e s) s)
      = tproj ((tagsOf evs).foldl (fun s e => tag p d e s) s') := by
  induction evs generalizing s s' with
  | nil => simpa [tagsOf]
  | cons e evs ih =>
    cases e with
    | tag e =>
      simp only [List.foldl_cons, tagsOf, applyEv]
      exact ih _ _ (tag_tproj p d e s s' h)
    | detect c =>
      simp only [List.foldl_cons, tagsOf, applyEv]
      apply ih
      rw [detect_tproj]; exact h

theorem runE_tproj (p : Params) (ev : Nat → List Ev) (N : Nat) :
    tproj (runE p ev N) = tproj (run p (fun d => tagsOf (ev d)) N) := by
  induction N with
  | zero => rfl
  | succ n ih =>
    simp only [runE, run, dayE, day]
    apply update_tproj
    apply events_tproj
    exact activate_tproj p n _ _ ih

theorem runE_fields (p : Params) (ev : Nat → List Ev) (N : Nat) :
    let s := runE p ev N
    let s' := run p (fun d => tagsOf (ev d)) N
    s.status = s'.status ∧ s.activeDays = s'.activeDays ∧ s.tagged = s'.tagged ∧ s.dst = s'.dst ∧
    s.trd = s'.trd ∧ s.by_ = s'.by_ ∧ s.endDate = s'.endDate ∧ s.emitting = s'.emitting ∧
    s.daysEmitting = s'.daysEmitting ∧ s.onCount = s'.onCount ∧ s.offCount = s'.offCount :=
  (tproj_eq_iff _ _).1 (runE_tproj p ev N)

/-- the run over mixed events is the run over its tag requests with another detection record:
whatever does not read `initDetect` / `initDetectBy` holds of the one as of the other -/
theorem runE_eq (p : Params) (ev : Nat → List Ev) (N : Nat) :
    ∃ i b, runE p ev N =
      { run p (fun d => tagsOf (ev d)) N with initDetect := i, initDetectBy := b } := by
  refine ⟨(runE p ev N).initDetect, (runE p ev N).initDetectBy, ?_⟩
  have h := runE_fields p ev N
  cases h1 : runE p ev N
  cases h2 : run p (fun d => tagsOf (ev d)) N
  simp_all

theorem mem_tagsOf (evs : List Ev) (e : TagEv) :
    e ∈ tagsOf evs ↔ Ev.tag e ∈ evs := by
  induction evs with
  | nil => simp [tagsOf]
  | cons x xs ih => cases x <;> simp [tagsOf, ih]

/-- a run that receives no events is the no-LDAR run -/
theorem runE_eq_baseline_of_no_events (p : Params) (ev : Nat → List Ev) (h : ∀ d, ev d = []) (N : Nat) :
    runE p ev N = baseline p N := by
  induction N with
  | zero => rfl
  | succ n ih =>
    show dayE p n (ev n) (runE p ev n) = day p n (noEvents n) (run p noEvents n)
    rw [ih, h n]; rfl

end LdarModel.Emission
