import LdarModel.Model.Window
import Mathlib.Algebra.Order.Floor.Ring
import Mathlib.Data.Rat.Floor
import Mathlib.Tactic.Ring
import Mathlib.Tactic.Linarith
/-
Lemmas for the estimation windows.  The conditions of neighbouring rows are complementary, so the two
offsets of an interval add up to its length for every rounding (`offsets_meet`); from that and the
bounds of an admissible rounding the windows of date-sorted rows meet exactly (`tiles_winsFrom`), and
the sentinels make the windows of a group tile the period (`tiles_groupWins`).  Lean's integer division
is the ℚ floor, which gives the exact rounding as `⌊g·f⌋` / `⌈g·f⌉` and the split identity
`⌈g·x⌉ + ⌊g·(1−x)⌋ = g`.
-/
namespace LdarModel.Window

theorem prevCond_eq_not_nextCond (r rn : Int) : prevCond r rn = !nextCond r rn := by
  rw [prevCond, nextCond, ← decide_not]
  exact decide_eq_decide.2 (by omega)

theorem num_add_num_not (f : Fac) (c : Bool) : f.num c + f.num (!c) = f.q := by
  unfold Fac.num; cases c <;> simp

/-- the value of the factor chosen by `calculate_factor` as a rational number -/
def Fac.val (f : Fac) (c : Bool) : ℚ := if c then 1 - (f.p : ℚ) / (f.q : ℚ) else (f.p : ℚ) / (f.q : ℚ)

theorem num_div (f : Fac) (hq : 0 < f.q) (c : Bool) : ((f.num c : Int) : ℚ) / (f.q : ℚ) = f.val c := by
  cases c
  · rfl
  · have hq' : (f.q : ℚ) ≠ 0 := Int.cast_ne_zero.2 (ne_of_gt hq)
    show ((f.q - f.p : Int) : ℚ) / f.q = 1 - f.p / f.q
    rw [Int.cast_sub, sub_div, div_self hq']

theorem val_add_val_not (f : Fac) (c : Bool) : f.val c + f.val (!c) = 1 := by
  unfold Fac.val; cases c <;> simp

/-- the value of the duration factor as a rational number -/
def Fac.ratio (f : Fac) : ℚ := (f.p : ℚ) / (f.q : ℚ)

theorem val_false (f : Fac) : f.val false = f.ratio := rfl
theorem val_true (f : Fac) : f.val true = 1 - f.ratio := rfl

theorem ediv_eq_floor (n q : Int) (hq : 0 < q) : n / q = ⌊(n : ℚ) / (q : ℚ)⌋ := by
  have h := Rat.floor_intCast_div_natCast n q.toNat
  have hq' : ((q.toNat : Int)) = q := Int.toNat_of_nonneg (le_of_lt hq)
  have hc : ((q.toNat : ℕ) : ℚ) = (q : ℚ) := by exact_mod_cast hq'
  rw [hc, hq'] at h
  exact h.symm

theorem ediv_mul_eq_floor (g n q : Int) (hq : 0 < q) :
    (g * n) / q = ⌊(g : ℚ) * ((n : ℚ) / (q : ℚ))⌋ := by
  rw [ediv_eq_floor _ _ hq]
  congr 1
  push_cast
  ring

theorem neg_ediv_mul_eq_ceil (g n q : Int) (hq : 0 < q) :
    -((-(g * n)) / q) = ⌈(g : ℚ) * ((n : ℚ) / (q : ℚ))⌉ := by
  rw [ediv_eq_floor _ _ hq]
  have h : ((-(g * n) : Int) : ℚ) / (q : ℚ) = -((g : ℚ) * ((n : ℚ) / (q : ℚ))) := by
    push_cast
    ring
  rw [h, Int.floor_neg, neg_neg]

theorem exact_lo_eq_floor (f : Fac) (hq : 0 < f.q) (g : Int) :
    (exactRounding f).lo g = ⌊(g : ℚ) * f.ratio⌋ := ediv_mul_eq_floor g f.p f.q hq

theorem exact_hi_eq_ceil (f : Fac) (hq : 0 < f.q) (g : Int) :
    (exactRounding f).hi g = ⌈(g : ℚ) * f.ratio⌉ := neg_ediv_mul_eq_ceil g f.p f.q hq

/-- the code before the repairs, in exact arithmetic: `⌊g·a⌋` and `⌈g·b⌉` -/
theorem endOffsetOrig_eq_floor (f : Fac) (hq : 0 < f.q) (g : Int) (c : Bool) :
    endOffsetOrig f g c = ⌊(g : ℚ) * f.val c⌋ := by
  unfold endOffsetOrig
  rw [ediv_mul_eq_floor _ _ _ hq, num_div f hq c]

theorem startOffsetOrig_eq_ceil (f : Fac) (hq : 0 < f.q) (g : Int) (c : Bool) :
    startOffsetOrig f g c = ⌈(g : ℚ) * f.val c⌉ := by
  unfold startOffsetOrig
  rw [neg_ediv_mul_eq_ceil _ _ _ hq, num_div f hq c]

theorem ceil_add_floor_compl (g : Int) (x : ℚ) : ⌈(g : ℚ) * x⌉ + ⌊(g : ℚ) * (1 - x)⌋ = g := by
  have h : (g : ℚ) * (1 - x) = (g : ℚ) + -((g : ℚ) * x) := by ring
  rw [h, Int.floor_intCast_add, Int.floor_neg]
  omega

theorem floor_add_ceil_compl (g : Int) (x : ℚ) : ⌊(g : ℚ) * x⌋ + ⌈(g : ℚ) * (1 - x)⌉ = g := by
  have h := ceil_add_floor_compl g (1 - x)
  rwa [sub_sub_cancel, add_comm] at h

/-- a rounding is admissible when both roundings return a whole number of days inside the
interval -/
def Admissible (ρ : Rounding) : Prop :=
  ∀ g, 0 ≤ g → (0 ≤ ρ.lo g ∧ ρ.lo g ≤ g) ∧ (0 ≤ ρ.hi g ∧ ρ.hi g ≤ g)

theorem exactRounding_admissible (f : Fac) (hf : f.Valid) : Admissible (exactRounding f) := by
  obtain ⟨hq, hp0, hpq⟩ := hf
  intro g hg
  have h1 : 0 ≤ g * f.p := Int.mul_nonneg hg hp0
  have h2 : g * f.p ≤ g * f.q := Int.mul_le_mul_of_nonneg_left hpq hg
  have h3 : (-(g * f.p)) / f.q ≤ 0 := Int.ediv_le_of_le_mul hq (by omega)
  have h4 : -g ≤ (-(g * f.p)) / f.q := Int.le_ediv_of_mul_le hq (by rw [Int.neg_mul]; omega)
  refine ⟨⟨Int.ediv_nonneg h1 (le_of_lt hq), Int.ediv_le_of_le_mul hq h2⟩, Int.neg_nonneg_of_nonpos h3, ?_⟩
  show -((-(g * f.p)) / f.q) ≤ g
  omega

abbrev Sorted (l : List Row) : Prop := l.Pairwise (fun a b => a.date ≤ b.date)

theorem mem_insertByDate (x y : Row) (l : List Row) : y ∈ insertByDate x l ↔ y = x ∨ y ∈ l := by
  induction l with
  | nil => simp [insertByDate]
  | cons z zs ih =>
    rw [insertByDate]
    split
    · exact List.mem_cons
    · rw [List.mem_cons, ih, List.mem_cons, or_left_comm]

theorem sorted_insertByDate (x : Row) (l : List Row) (h : Sorted l) : Sorted (insertByDate x l) := by
  induction l with
  | nil => simp [insertByDate, Sorted]
  | cons z zs ih =>
    unfold insertByDate
    have hz := List.pairwise_cons.mp h
    split
    · rename_i hlt
      refine List.pairwise_cons.mpr ⟨?_, h⟩
      intro b hb
      rcases List.mem_cons.mp hb with rfl | hb
      · exact Int.le_of_lt hlt
      · exact Int.le_trans (Int.le_of_lt hlt) (hz.1 b hb)
    · rename_i hge
      refine List.pairwise_cons.mpr ⟨?_, ih hz.2⟩
      intro b hb
      rcases (mem_insertByDate x b zs).mp hb with rfl | hb
      · exact Int.not_lt.1 hge
      · exact hz.1 b hb

private theorem foldl_insert_spec (l acc : List Row) (h : Sorted acc) :
    Sorted (l.foldl (fun acc x => insertByDate x acc) acc) ∧
    ∀ y, y ∈ l.foldl (fun acc x => insertByDate x acc) acc ↔ y ∈ l ∨ y ∈ acc := by
  induction l generalizing acc with
  | nil => exact ⟨h, fun y => by simp⟩
  | cons x xs ih =>
    have := ih (insertByDate x acc) (sorted_insertByDate x acc h)
    refine ⟨this.1, fun y => ?_⟩
    rw [List.foldl_cons, this.2 y, mem_insertByDate, List.mem_cons, or_left_comm, or_assoc]

theorem sorted_sortByDate (l : List Row) : Sorted (sortByDate l) :=
  (foldl_insert_spec l [] List.Pairwise.nil).1

theorem mem_sortByDate (l : List Row) (y : Row) : y ∈ sortByDate l ↔ y ∈ l := by
  have := (foldl_insert_spec l [] List.Pairwise.nil).2 y
  unfold sortByDate
  rw [this]; simp

/-- start offset of a row given the row before it, as `winsFrom` computes it -/
def startOff (ρ : Rounding) (prev : Option Row) (x : Row) : Int :=
  match prev with
  | none => startOffset ρ 0 false
  | some y => startOffset ρ (x.date - y.date) (prevCond y.rate x.rate)

/-- end offset of a row given the rows after it, as `winsFrom` computes it -/
def endOff (ρ : Rounding) (x : Row) (rest : List Row) : Int :=
  match rest with
  | [] => endOffset ρ 0 false
  | z :: _ => endOffset ρ (z.date - x.date) (nextCond x.rate z.rate)

theorem winsFrom_cons (ρ : Rounding) (prev : Option Row) (x : Row) (rest : List Row) :
    winsFrom ρ prev (x :: rest) =
      { start := x.date - startOff ρ prev x, stop := x.date + endOff ρ x rest, date := x.date,
        rate := x.rate } :: winsFrom ρ (some x) rest := by
  cases prev <;> cases rest <;> rfl

theorem startOffset_nonneg (ρ : Rounding) (hρ : Admissible ρ) (g : Int) (c : Bool) (hg : 0 ≤ g) :
    0 ≤ startOffset ρ g c := by
  cases c with
  | false => exact (hρ g hg).2.1
  | true => exact Int.sub_nonneg.2 (hρ g hg).1.2

theorem endOffset_nonneg (ρ : Rounding) (hρ : Admissible ρ) (g : Int) (c : Bool) (hg : 0 ≤ g) :
    0 ≤ endOffset ρ g c := by
  cases c with
  | false => exact (hρ g hg).1.1
  | true => exact Int.sub_nonneg.2 (hρ g hg).2.2

theorem offsets_meet (ρ : Rounding) (g r rn : Int) :
    endOffset ρ g (nextCond r rn) + startOffset ρ g (prevCond r rn) = g := by
  rw [prevCond_eq_not_nextCond]
  unfold endOffset startOffset
  cases nextCond r rn <;> simp

/-- who receives the rounded share of an interval: the earlier row when its rate is the larger or an equal
one (`lo`), otherwise the later row (`hi`) -/
theorem share_offsets (ρ : Rounding) (g r rn : Int) :
    if rn ≤ r then endOffset ρ g (nextCond r rn) = ρ.lo g else startOffset ρ g (prevCond r rn) = ρ.hi g := by
  by_cases h : rn ≤ r
  · have : nextCond r rn = false := decide_eq_false (by omega)
    rw [if_pos h, this]; rfl
  · have : prevCond r rn = false := decide_eq_false (by omega)
    rw [if_neg h, this]; rfl

theorem offsets_zero (ρ : Rounding) (hρ : Admissible ρ) : startOffset ρ 0 false = 0 ∧ endOffset ρ 0 false = 0 :=
  have h := hρ 0 (Int.le_refl 0)
  ⟨Int.le_antisymm h.2.2 h.2.1, Int.le_antisymm h.1.2 h.1.1⟩

theorem startOff_nonneg (ρ : Rounding) (hρ : Admissible ρ) (prev : Option Row) (x : Row)
    (hprev : ∀ y, prev = some y → y.date ≤ x.date) : 0 ≤ startOff ρ prev x := by
  cases prev with
  | none => exact startOffset_nonneg ρ hρ 0 false (Int.le_refl 0)
  | some y => exact startOffset_nonneg ρ hρ (x.date - y.date) _ (Int.sub_nonneg.2 (hprev y rfl))

theorem tiles_winsFrom (ρ : Rounding) (hρ : Admissible ρ) (E : Int) (rest : List Row) (x : Row) (prev : Option Row)
    (hprev : ∀ y, prev = some y → y.date ≤ x.date) (hs : Sorted (x :: rest))
    (hle : ∀ y ∈ x :: rest, y.date ≤ E) (hE : ∃ y ∈ x :: rest, y.date = E) :
    Tiles (x.date - startOff ρ prev x) E (winsFrom ρ prev (x :: rest)) := by
  induction rest generalizing x prev with
  | nil =>
    obtain ⟨y, hy, hyE⟩ := hE
    rw [List.mem_singleton.1 hy] at hyE
    have hso := startOff_nonneg ρ hρ prev x hprev
    have h0 : endOff ρ x [] = 0 := (offsets_zero ρ hρ).2
    rw [winsFrom_cons, h0, winsFrom, Tiles, Tiles]
    exact ⟨rfl, Int.le_trans (Int.sub_le_self _ hso) (Int.le_add_of_nonneg_right (Int.le_refl 0)),
      (Int.add_zero _).trans hyE⟩
  | cons z zs ih =>
    have hx := List.pairwise_cons.mp hs
    have hxz : x.date ≤ z.date := hx.1 z List.mem_cons_self
    have hso := startOff_nonneg ρ hρ prev x hprev
    have hr := endOffset_nonneg ρ hρ (z.date - x.date) (nextCond x.rate z.rate) (Int.sub_nonneg.2 hxz)
    -- if `x` is on the latest date, so is `z`
    have hE' : ∃ y ∈ z :: zs, y.date = E := by
      obtain ⟨y, hy, hyE⟩ := hE
      rcases List.mem_cons.1 hy with rfl | hy
      · exact ⟨z, List.mem_cons_self,
          Int.le_antisymm (hle z (List.mem_cons_of_mem _ List.mem_cons_self)) (hyE ▸ hxz)⟩
      · exact ⟨y, hy, hyE⟩
    have ih := ih z (some x) (fun y hy => Option.some.inj hy ▸ hxz) hx.2
      (fun y hy => hle y (List.mem_cons_of_mem _ hy)) hE'
    -- the next window starts where this one stops
    have hmeet : z.date - startOff ρ (some x) z = x.date + endOff ρ x (z :: zs) := by
      have := offsets_meet ρ (z.date - x.date) x.rate z.rate
      simp only [startOff, endOff]; omega
    rw [winsFrom_cons, Tiles]
    exact ⟨rfl, Int.le_trans (Int.sub_le_self _ hso) (Int.le_add_of_nonneg_right hr), hmeet ▸ ih⟩

/-! ### one group: the sentinels bound the sorted rows -/

/-- tiling of one group for every admissible rounding: the rows lie inside the period and the two sentinels
are among them, so the sorted rows begin on `S` and end on `E` -/
theorem tiles_groupWins (ρ : Rounding) (hρ : Admissible ρ) (S E : Int) (rows : List Row)
    (hSE : S ≤ E) (hb : ∀ r ∈ rows, S ≤ r.date ∧ r.date ≤ E) :
    Tiles S E (groupWins ρ S E rows) := by
  have hsorted := sorted_sortByDate (rows ++ [{ date := S, rate := 0 }, { date := E, rate := 0 }])
  have hmem := mem_sortByDate (rows ++ [{ date := S, rate := 0 }, { date := E, rate := 0 }])
  unfold groupWins groupRows
  generalize sortByDate (rows ++ [{ date := S, rate := 0 }, { date := E, rate := 0 }]) = l at hsorted hmem
  have hall : ∀ y ∈ l, S ≤ y.date ∧ y.date ≤ E := fun y hy => by
    have := (hmem y).mp hy
    simp only [List.mem_append, List.mem_cons, List.not_mem_nil, or_false] at this
    rcases this with h | rfl | rfl
    exacts [hb y h, ⟨le_refl _, hSE⟩, ⟨hSE, le_refl _⟩]
  have hS : ({ date := S, rate := 0 } : Row) ∈ l := (hmem _).mpr (List.mem_append_right _ List.mem_cons_self)
  have hE : ({ date := E, rate := 0 } : Row) ∈ l :=
    (hmem _).mpr (List.mem_append_right _ (List.mem_cons_of_mem _ List.mem_cons_self))
  cases l with
  | nil => cases hS
  | cons x rest =>
    have hxS : x.date = S := by
      refine le_antisymm ?_ (hall x List.mem_cons_self).1
      rcases List.mem_cons.mp hS with h | h
      · rw [← h]
      · exact (List.pairwise_cons.mp hsorted).1 _ h
    have h := tiles_winsFrom ρ hρ E rest x none nofun hsorted (fun y hy => (hall y hy).2) ⟨_, hE, rfl⟩
    rwa [show startOff ρ none x = 0 from (offsets_zero ρ hρ).1, hxS, sub_zero] at h

theorem mem_dedup {α} [DecidableEq α] (x : α) (l : List α) : x ∈ dedup l ↔ x ∈ l := by
  induction l with
  | nil => exact Iff.rfl
  | cons y ys ih =>
    rw [dedup, List.mem_cons, List.mem_cons, List.mem_filter, ih]
    by_cases h : x = y <;> simp [h]

theorem relevant_sub (m : Mode) (recs : List Rec) (r : Rec) : r ∈ relevant m recs → r ∈ recs := by
  cases m
  · exact id
  · intro h; exact (List.mem_filter.mp h).1

theorem groupInput_bounds (m : Mode) (recs : List Rec) (k : Key) (S E : Int)
    (hb : ∀ r ∈ recs, S ≤ r.date ∧ r.date ≤ E) :
    ∀ r ∈ groupInput m recs k, S ≤ r.date ∧ r.date ≤ E := by
  intro r hr
  unfold groupInput at hr
  simp only [List.mem_append] at hr
  rcases hr with hr | hr
  · obtain ⟨a, ha, rfl⟩ := List.mem_map.mp hr
    exact hb a (relevant_sub m recs a (List.mem_filter.mp ha).1)
  · cases m with
    | site => simp at hr
    | comp =>
      obtain ⟨d, hd, rfl⟩ := List.mem_map.mp hr
      have hd' := (mem_dedup _ _).mp (List.mem_filter.mp hd).1
      obtain ⟨a, ha, rfl⟩ := List.mem_map.mp hd'
      exact hb a (relevant_sub .comp recs a (List.mem_filter.mp ha).1)

theorem forall_mem_report {m : Mode} {ρ : Rounding} {S E : Int} {recs : List Rec} {P : Key × List Win → Prop}
    (h : ∀ k, P (k, groupWins ρ S E (groupInput m recs k))) : ∀ kw ∈ report m ρ S E recs, P kw := by
  intro kw hkw
  obtain ⟨k, _, rfl⟩ := List.mem_map.mp hkw
  exact h k

theorem condsFrom_cons (prev : Option Row) (x : Row) (rest : List Row) :
    condsFrom prev (x :: rest) =
      ((match prev with | none => false | some y => prevCond y.rate x.rate),
       (match rest with | [] => false | z :: _ => nextCond x.rate z.rate)) :: condsFrom (some x) rest := rfl

theorem complementary_condsFrom : ∀ (rows : List Row) (prev : Option Row), Complementary (condsFrom prev rows) := by
  intro rows
  induction rows with
  | nil => intro prev; simp [condsFrom, Complementary]
  | cons x rest ih =>
    intro prev
    cases rest with
    | nil => simp [condsFrom, Complementary]
    | cons z zs =>
      have ihz := ih (some x)
      rw [condsFrom_cons] at ihz ⊢
      exact ⟨prevCond_eq_not_nextCond x.rate z.rate, ihz⟩

theorem condsFrom_getLast : ∀ (l : List Row) (prev : Option Row),
    ∀ c ∈ (condsFrom prev l).getLast?, c.2 = false
  | [], _ => fun _ hc => nomatch hc
  | [x], _ => fun c hc => by cases hc; rfl
  | x :: z :: zs, prev => by
    rw [condsFrom_cons, condsFrom_cons, List.getLast?_cons_cons, ← condsFrom_cons (some x) z zs]
    exact condsFrom_getLast (z :: zs) (some x)

/-! ### calendar: the computation only sees differences of dates -/

def Row.shift (k : Int) (r : Row) : Row := { r with date := r.date + k }
def Win.shift (k : Int) (w : Win) : Win :=
  { w with start := w.start + k, stop := w.stop + k, date := w.date + k }

theorem insertByDate_shift (k : Int) (x : Row) (l : List Row) :
    insertByDate (x.shift k) (l.map (Row.shift k)) = (insertByDate x l).map (Row.shift k) := by
  induction l with
  | nil => rfl
  | cons y ys ih =>
    have h : (x.shift k).date < (y.shift k).date ↔ x.date < y.date := Int.add_lt_add_iff_right k
    rw [List.map_cons, insertByDate, insertByDate]
    simp only [h]
    split
    · rfl
    · rw [List.map_cons, ih]

theorem sortByDate_shift (k : Int) (l : List Row) :
    sortByDate (l.map (Row.shift k)) = (sortByDate l).map (Row.shift k) := by
  unfold sortByDate
  suffices h : ∀ acc : List Row,
      (l.map (Row.shift k)).foldl (fun acc x => insertByDate x acc) (acc.map (Row.shift k))
        = (l.foldl (fun acc x => insertByDate x acc) acc).map (Row.shift k) by
    simpa using h []
  induction l with
  | nil => intro acc; rfl
  | cons x xs ih =>
    intro acc
    simp only [List.map_cons, List.foldl_cons]
    rw [insertByDate_shift, ih]

theorem startOff_shift (ρ : Rounding) (k : Int) (prev : Option Row) (x : Row) :
    startOff ρ (prev.map (Row.shift k)) (x.shift k) = startOff ρ prev x := by
  cases prev with
  | none => rfl
  | some y => simp only [Option.map_some, startOff, Row.shift, add_sub_add_right_eq_sub]

theorem endOff_shift (ρ : Rounding) (k : Int) (x : Row) (rest : List Row) :
    endOff ρ (x.shift k) (rest.map (Row.shift k)) = endOff ρ x rest := by
  cases rest with
  | nil => rfl
  | cons z zs => simp only [List.map_cons, endOff, Row.shift, add_sub_add_right_eq_sub]

theorem winsFrom_shift (ρ : Rounding) (k : Int) (rows : List Row) (prev : Option Row) :
    winsFrom ρ (prev.map (Row.shift k)) (rows.map (Row.shift k)) = (winsFrom ρ prev rows).map (Win.shift k) := by
  induction rows generalizing prev with
  | nil => rfl
  | cons x rest ih =>
    rw [List.map_cons, winsFrom_cons, winsFrom_cons, List.map_cons, startOff_shift, endOff_shift, ← ih (some x)]
    simp only [Win.shift, Row.shift, Option.map_some, List.cons.injEq, Win.mk.injEq, and_true]
    exact ⟨add_sub_right_comm .., add_right_comm ..⟩

theorem groupWins_shift (ρ : Rounding) (k S E : Int) (rows : List Row) :
    groupWins ρ (S + k) (E + k) (rows.map (Row.shift k)) = (groupWins ρ S E rows).map (Win.shift k) := by
  unfold groupWins groupRows
  have h : rows.map (Row.shift k) ++ [({ date := S + k, rate := 0 } : Row), ({ date := E + k, rate := 0 } : Row)]
      = (rows ++ [({ date := S, rate := 0 } : Row), ({ date := E, rate := 0 } : Row)]).map (Row.shift k) := by
    simp [Row.shift]
  rw [h, sortByDate_shift]
  exact winsFrom_shift ρ k _ none

/-! ### frame: a group only sees the reports of its own site -/

theorem keyOf_site (m : Mode) (r : Rec) : (keyOf m r).site = r.site := by cases m <;> rfl

theorem relevant_filter_site (m : Mode) (recs : List Rec) (s : Nat) :
    relevant m (recs.filter (fun r => r.site = s)) = (relevant m recs).filter (fun r => r.site = s) := by
  cases m
  · rfl
  · simp only [relevant, List.filter_filter]
    congr 1
    funext r
    exact Bool.and_comm _ _

theorem groupInput_frame (m : Mode) (recs : List Rec) (k : Key) :
    groupInput m (recs.filter (fun r => r.site = k.site)) k = groupInput m recs k := by
  unfold groupInput
  rw [relevant_filter_site]
  have hown : ((relevant m recs).filter (fun r => r.site = k.site)).filter (fun r => keyOf m r = k)
      = (relevant m recs).filter (fun r => keyOf m r = k) := by
    rw [List.filter_filter]
    congr 1
    funext r
    by_cases h : keyOf m r = k
    · have : r.site = k.site := by rw [← keyOf_site m r, h]
      simp [h, this]
    · simp [h]
  have hdates : siteDates ((relevant m recs).filter (fun r => r.site = k.site)) k.site
      = siteDates (relevant m recs) k.site := by
    unfold siteDates
    rw [List.filter_filter]
    simp
  simp only [hown]
  cases m
  · rfl
  · simp only [hdates]

end LdarModel.Window
