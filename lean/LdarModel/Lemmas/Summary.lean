import LdarModel.Lemmas.Calendar
import Mathlib.Data.List.Perm.Basic
import Mathlib.Data.List.Nodup
import Mathlib.Tactic.Ring
import Mathlib.Tactic.FieldSimp
import Mathlib.Algebra.Order.Field.Rat
/-
Helper lemmas for the summary aggregation model: file-name parsing of generated names, which file each
output pattern selects, keyed tables under permutation, the closed form of one batch and the invariant
of the batch loop, the cost summary, sums, the yearly share of closed and of open-ended records.
-/

namespace LdarModel.Summary

/-! ### names -/

theorem splitU_nil : splitU [] = [[]] := by simp [splitU]

theorem splitU_us (cs : Name) : splitU ('_' :: cs) = [] :: splitU cs := by
  rw [splitU]; simp

theorem splitU_ne (c : Char) (cs : Name) (h : c ≠ '_') :
    splitU (c :: cs) = consHead c (splitU cs) := by
  rw [splitU]; simp [h]

theorem splitU_ne_nil (n : Name) : splitU n ≠ [] := by
  cases n with
  | nil => simp [splitU_nil]
  | cons c cs =>
    by_cases hc : c = '_'
    · subst hc; simp [splitU_us]
    · rw [splitU_ne c cs hc]; cases splitU cs <;> simp [consHead]

theorem splitU_append (p rest : Name) : splitU (p ++ '_' :: rest) = splitU p ++ splitU rest := by
  induction p with
  | nil => simp [splitU_us, splitU_nil]
  | cons c p ih =>
    simp only [List.cons_append]
    by_cases hc : c = '_'
    · subst hc; simp [splitU_us, ih]
    · obtain ⟨t, ts, h⟩ := List.exists_cons_of_ne_nil (splitU_ne_nil p)
      rw [splitU_ne c _ hc, splitU_ne c p hc, ih, h]; rfl

theorem splitU_noUnderscore (t : Name) (h : '_' ∉ t) : splitU t = [t] := by
  induction t with
  | nil => simp [splitU_nil]
  | cons c t ih =>
    have hc : c ≠ '_' := fun e => h (by simp [e])
    have ht : '_' ∉ t := fun e => h (by simp [e])
    rw [splitU_ne c t hc, ih ht]; rfl

theorem joinU_cons_cons (c : Char) (t : Name) (ts : List Name) :
    joinU ((c :: t) :: ts) = c :: joinU (t :: ts) := by
  cases ts <;> simp [joinU]

theorem joinU_splitU (p : Name) : joinU (splitU p) = p := by
  induction p with
  | nil => simp [splitU_nil, joinU]
  | cons c p ih =>
    obtain ⟨t, ts, h⟩ := List.exists_cons_of_ne_nil (splitU_ne_nil p)
    rw [h] at ih
    by_cases hc : c = '_'
    · subst hc; simp [splitU_us, h, joinU, ih]
    · simp [splitU_ne c p hc, h, consHead, joinU_cons_cons, ih]

theorem parseToks_none (pre ts : List Name) (h : ∀ t ∈ ts, isDigits t = false) :
    parseToks pre ts = none := by
  induction ts generalizing pre with
  | nil => simp [parseToks]
  | cons t ts ih =>
    unfold parseToks
    rw [ih _ (fun x hx => h x (by simp [hx]))]
    simp [h t (by simp)]

theorem parseToks_found (pre A : List Name) (d : Name) (S : List Name)
    (hd : isDigits d = true) (hS : ∀ t ∈ S, isDigits t = false) (hr : restOK S = true)
    (hne : pre ++ A ≠ []) : parseToks pre (A ++ d :: S) = some (pre ++ A, d) := by
  induction A generalizing pre with
  | nil =>
    simp only [List.nil_append, List.append_nil] at *
    unfold parseToks
    rw [parseToks_none _ _ hS]
    have : pre.isEmpty = false := by cases pre <;> simp_all
    simp [hd, hr, this]
  | cons a A ih =>
    simp only [List.cons_append]
    unfold parseToks
    rw [ih (pre ++ [a]) (by simp)]
    simp

theorem isDigits_simDigits (s : Nat) : isDigits (simDigits s) = true := by
  simp only [isDigits, simDigits, Bool.and_eq_true, Bool.not_eq_true', List.isEmpty_eq_false_iff, List.all_eq_true]
  exact ⟨Nat.toDigits_ne_nil, fun c hc => Nat.isDigit_of_mem_toDigits (by decide) (by decide) hc⟩

theorem simDigits_injective : Function.Injective simDigits := by
  intro a b h
  have := congrArg (fun l => Nat.ofDigitChars 10 l 0) h
  simpa [simDigits, Nat.ofDigitChars_ten_toDigits] using this

theorem key_injective (p : Name) : Function.Injective (key p) := by
  intro a b h
  exact simDigits_injective (by simpa [key] using h)

/-- a suffix after which the name regex still takes the number in front of it for the simulation number -/
def GoodSuffix (suf : Name) : Prop :=
  (∀ t ∈ splitU suf, isDigits t = false) ∧ restOK (splitU suf) = true

theorem parseName_mkName (p : Name) (s : Nat) (suf : Name) (h : GoodSuffix suf) :
    parseName (mkName p s suf) = some (key p s) := by
  unfold parseName mkName
  rw [splitU_append, splitU_append,
    splitU_noUnderscore (simDigits s) (by unfold simDigits; exact Nat.underscore_not_in_toDigits)]
  have hp : ([] : List Name) ++ splitU p ≠ [] := by simpa using splitU_ne_nil p
  have := parseToks_found [] (splitU p) (simDigits s) (splitU suf) (isDigits_simDigits s) h.1 h.2 hp
  simp only [List.singleton_append]
  rw [this]
  simp [joinU_splitU, key]

/-! ### which generated file each pattern selects -/

theorem hasSuffix_mkName_self (p : Name) (s : Nat) (suf : Name) : hasSuffix suf (mkName p s suf) = true := by
  unfold hasSuffix mkName
  rw [List.isSuffixOf_iff_suffix]
  exact ⟨p ++ '_' :: (simDigits s ++ ['_']), by simp⟩

/-- neither pattern can match the tail `_b` of a name generated for the other -/
def apart (a b : Name) : Bool := !a.isSuffixOf ('_' :: b) && !('_' :: b).isSuffixOf a

theorem hasSuffix_mkName_other (p : Name) (s : Nat) (a b : Name) (h : apart a b = true) :
    hasSuffix a (mkName p s b) = false := by
  simp only [apart, Bool.and_eq_true, Bool.not_eq_true'] at h
  unfold hasSuffix mkName
  cases h' : a.isSuffixOf (p ++ '_' :: (simDigits s ++ '_' :: b)) with
  | false => rfl
  | true =>
    rw [List.isSuffixOf_iff_suffix] at h'
    have hb : ('_' :: b) <:+ (p ++ '_' :: (simDigits s ++ '_' :: b)) :=
      ⟨p ++ '_' :: simDigits s, by simp⟩
    rcases List.suffix_or_suffix_of_suffix h' hb with h'' | h'' <;>
      rw [← List.isSuffixOf_iff_suffix] at h'' <;> simp [h''] at h

/-- in a generated name none of the four output patterns matches the file written for another, and the
name regex finds the key in front of each (evaluation of the four literals) -/
theorem outSuffixes_spec :
    (apart tsSuffix emisSuffix ∧ apart tsSuffix estSuffix ∧ apart tsSuffix repSuffix ∧
     apart emisSuffix tsSuffix ∧ apart emisSuffix estSuffix ∧ apart emisSuffix repSuffix ∧
     apart estSuffix tsSuffix ∧ apart estSuffix emisSuffix ∧ apart estSuffix repSuffix ∧
     apart repSuffix tsSuffix ∧ apart repSuffix emisSuffix ∧ apart repSuffix estSuffix) ∧
    GoodSuffix tsSuffix ∧ GoodSuffix emisSuffix ∧ GoodSuffix estSuffix ∧ GoodSuffix repSuffix := by
  unfold GoodSuffix; decide +kernel

theorem isKept_append_us (p rest : Name) : isKept (p ++ '_' :: rest) = isKept p := by
  unfold isKept keptStr
  match p with
  | [] => simp [List.isPrefixOf]
  | [a] => simp [List.isPrefixOf]
  | [a, b] => simp [List.isPrefixOf]
  | [a, b, c] => simp [List.isPrefixOf]
  | a :: b :: c :: d :: p' => simp [List.isPrefixOf]

theorem isKept_mkName (p : Name) (s : Nat) (suf : Name) : isKept (mkName p s suf) = isKept p := by
  unfold mkName; exact isKept_append_us p _

theorem isKept_kept_append (n : Name) : isKept (keptStr ++ n) = true := by
  unfold isKept
  rw [List.isPrefixOf_iff_prefix]
  exact List.prefix_append _ _

/-! ### keyed tables -/

def keys {α : Type} (t : Table α) : List Key := t.map (·.1)

theorem lookup_cons_eq {α : Type} (k k' : Key) (v : α) (t : Table α) :
    List.lookup k ((k', v) :: t) = if k = k' then some v else List.lookup k t := by
  rw [List.lookup_cons]
  by_cases h : k = k'
  · simp [h]
  · simp [h, beq_eq_false_iff_ne.mpr h]

theorem lookup_eq_none_of_not_mem {α : Type} (k : Key) (t : Table α) (h : k ∉ keys t) :
    List.lookup k t = none :=
  List.lookup_eq_none_iff.mpr fun _ hx => bne_iff_ne.mpr fun e => h (e ▸ List.mem_map_of_mem hx)

theorem lookup_isSome_of_mem {α : Type} (k : Key) (t : Table α) (h : k ∈ keys t) :
    (List.lookup k t).isSome = true := by
  obtain ⟨x, hx, rfl⟩ := List.mem_map.mp h
  exact List.lookup_isSome_iff.mpr ⟨x, hx, beq_self_eq_true _⟩

theorem lookup_of_mem_nodup {α : Type} {t : Table α} (nd : (keys t).Nodup) {k : Key} {v : α}
    (h : (k, v) ∈ t) : List.lookup k t = some v := by
  induction t with
  | nil => simp at h
  | cons x t ih =>
    obtain ⟨k', v'⟩ := x
    simp only [keys, List.map_cons, List.nodup_cons] at nd
    rw [lookup_cons_eq]
    rcases List.mem_cons.mp h with h1 | h2
    · cases h1; simp
    · rw [if_neg fun e : k = k' => nd.1 (e ▸ List.mem_map_of_mem (f := (·.1)) h2)]; exact ih nd.2 h2

theorem mem_keys_of_perm {α : Type} {t t' : Table α} (h : t.Perm t') (k : Key) : k ∈ keys t ↔ k ∈ keys t' :=
  (List.Perm.map (·.1) h).mem_iff

theorem nodup_keys_of_perm {α : Type} {t t' : Table α} (h : t.Perm t') (nd : (keys t).Nodup) : (keys t').Nodup :=
  (List.Perm.nodup_iff (List.Perm.map _ h)).mp nd

theorem lookup_perm {α : Type} {t t' : Table α} (h : t.Perm t') (nd : (keys t).Nodup) (k : Key) :
    List.lookup k t = List.lookup k t' := by
  by_cases hk : k ∈ keys t
  · obtain ⟨⟨k', v⟩, hx, rfl⟩ := List.mem_map.mp hk
    rw [lookup_of_mem_nodup nd hx, lookup_of_mem_nodup (nodup_keys_of_perm h nd) (h.mem_iff.mp hx)]
  · rw [lookup_eq_none_of_not_mem k t hk, lookup_eq_none_of_not_mem k t' (mt (mem_keys_of_perm h k).mpr hk)]

theorem lookup_map_val {α β : Type} (g : Key → α → β) (k : Key) (t : Table α) :
    List.lookup k (t.map fun x => (x.1, g x.1 x.2)) = (List.lookup k t).map (g k) := by
  induction t with
  | nil => rfl
  | cons x t ih =>
    obtain ⟨k', v⟩ := x
    simp only [List.map_cons, lookup_cons_eq]
    by_cases e : k = k'
    · subst e; simp
    · simp [e, ih]

def optRows {α : Type} (p : Name) (f : Nat → Option α) (sims : List Nat) : Table α :=
  sims.flatMap fun s => ((f s).map fun c => (key p s, c)).toList

theorem lookup_optRows {α : Type} (p : Name) (f : Nat → Option α) (sims : List Nat) (s : Nat) :
    List.lookup (key p s) (optRows p f sims) = if s ∈ sims then f s else none := by
  induction sims with
  | nil => rfl
  | cons a rest ih =>
    rw [optRows, List.flatMap_cons, List.lookup_append, ← optRows, ih]
    by_cases e : s = a
    · subst e
      cases f s <;> simp
    · have hk : key p s ≠ key p a := fun h => e (key_injective p h)
      cases hf : f a <;> simp [lookup_cons_eq, hk, e]

theorem optRows_some {α : Type} (p : Name) (f : Nat → α) (sims : List Nat) :
    optRows p (fun s => some (f s)) sims = sims.map fun s => (key p s, f s) := by
  simp [optRows, List.map_eq_flatMap]

theorem keys_optRows {α : Type} (p : Name) (f : Nat → Option α) (sims : List Nat) :
    keys (optRows p f sims) = (sims.filter fun s => (f s).isSome).map (key p) := by
  induction sims with
  | nil => rfl
  | cons a rest ih =>
    rw [optRows, List.flatMap_cons, keys, List.map_append, List.filter_cons]
    cases hf : f a <;> simp [← ih, keys, optRows]

theorem nodup_keys_optRows {α : Type} (p : Name) (f : Nat → Option α) (sims : List Nat) (nd : sims.Nodup) :
    (keys (optRows p f sims)).Nodup := by
  rw [keys_optRows]; exact (nd.filter _).map (key_injective p)


/-! ### summarising a generated folder -/

section
variable {κ α : Type}

def selected (suf : Name) (l : List (File κ)) : List (File κ) :=
  l.filter fun e => hasSuffix suf e.name && !isKept e.name

theorem summarize_eq (suf : Name) (f : κ → α) (l : List (File κ)) :
    summarize suf f l = (selected suf l).filterMap fun e => (parseName e.name).map fun k => (k, f e.content) := by
  simp only [summarize, selected, List.filterMap_filter]

theorem rejectsListing_eq (suf : Name) (ok : κ → Bool) (l : List (File κ)) :
    rejectsListing suf ok l = (selected suf l).any fun e => !ok e.content := by
  simp [rejectsListing, selected, List.any_filter]

theorem selected_simFiles (p : Name) (s : Nat) (o : SimOut κ) (hk : isKept p = false) :
    selected tsSuffix (simFiles p s o) = [⟨mkName p s tsSuffix, o.ts⟩] ∧
    selected emisSuffix (simFiles p s o) = [⟨mkName p s emisSuffix, o.emis⟩] ∧
    selected estSuffix (simFiles p s o) = (o.est.map fun c => (⟨mkName p s estSuffix, c⟩ : File κ)).toList ∧
    selected repSuffix (simFiles p s o) = (o.rep.map fun c => (⟨mkName p s repSuffix, c⟩ : File κ)).toList := by
  obtain ⟨ts, emis, est, rep⟩ := o
  cases est <;> cases rep <;>
    simp [selected, simFiles, hasSuffix_mkName_self, hasSuffix_mkName_other, outSuffixes_spec.1, isKept_mkName, hk]

theorem summarize_simFiles (f : κ → α) (p : Name) (s : Nat) (o : SimOut κ) (hk : isKept p = false) :
    summarize tsSuffix f (simFiles p s o) = [(key p s, f o.ts)] ∧
    summarize emisSuffix f (simFiles p s o) = [(key p s, f o.emis)] ∧
    summarize estSuffix f (simFiles p s o) = ((o.est.map f).map fun c => (key p s, c)).toList ∧
    summarize repSuffix f (simFiles p s o) = ((o.rep.map f).map fun c => (key p s, c)).toList := by
  obtain ⟨h1, h2, h3, h4⟩ := selected_simFiles p s o hk
  obtain ⟨g1, g2, g3, g4⟩ := outSuffixes_spec.2
  simp only [summarize_eq, h1, h2, h3, h4]
  cases o.est <;> cases o.rep <;> simp [parseName_mkName, g1, g2, g3, g4]

theorem rejects_simFiles (ok : κ → Bool) (p : Name) (s : Nat) (o : SimOut κ) (hk : isKept p = false) :
    rejectsListing tsSuffix ok (simFiles p s o) = !ok o.ts ∧
    rejectsListing emisSuffix ok (simFiles p s o) = !ok o.emis ∧
    rejectsListing estSuffix ok (simFiles p s o) = ((o.est.map fun e => !ok e).getD false) := by
  obtain ⟨h1, h2, h3, _⟩ := selected_simFiles p s o hk
  simp only [rejectsListing_eq, h1, h2, h3]
  cases o.est <;> simp

/-- the folder of program `p` while batch `sims` is summarised: files of earlier batches (all
marked kept) and the files the batch has just written -/
def batchDir (W : Name → Nat → SimOut κ) (p : Name) (old : List (File κ)) (sims : List Nat) : List (File κ) :=
  old ++ sims.flatMap fun s => simFiles p s (W p s)

theorem summarize_perm (suf : Name) (f : κ → α) {l l' : List (File κ)} (h : l.Perm l') :
    (summarize suf f l).Perm (summarize suf f l') := List.Perm.filterMap _ h

theorem summarize_append (suf : Name) (f : κ → α) (a b : List (File κ)) :
    summarize suf f (a ++ b) = summarize suf f a ++ summarize suf f b := by
  simp [summarize, List.filterMap_append]

theorem summarize_kept (suf : Name) (f : κ → α) (d : List (File κ)) (h : ∀ e ∈ d, isKept e.name = true) :
    summarize suf f d = [] :=
  List.filterMap_eq_nil_iff.mpr fun e he => by simp [h e he]

theorem summarize_flatMap {β : Type} (suf : Name) (f : κ → α) (l : List β) (g : β → List (File κ)) :
    summarize suf f (l.flatMap g) = l.flatMap fun x => summarize suf f (g x) := by
  simp [summarize, List.filterMap_flatMap]

theorem summarize_batch (suf : Name) (f : κ → α) (W : Name → Nat → SimOut κ) (p : Name)
    (old : List (File κ)) (hold : ∀ e ∈ old, isKept e.name = true) (sims : List Nat) (r : Nat → Option α)
    (hr : ∀ s, summarize suf f (simFiles p s (W p s)) = ((r s).map fun c => (key p s, c)).toList)
    {l : List (File κ)} (hl : l.Perm (batchDir W p old sims)) :
    (summarize suf f l).Perm (optRows p r sims) := by
  refine (summarize_perm _ _ hl).trans (.of_eq ?_)
  rw [batchDir, summarize_append, summarize_kept _ _ _ hold, List.nil_append, summarize_flatMap, optRows]
  exact List.flatMap_congr fun s _ => hr s

theorem rejectsListing_batch (suf : Name) (ok : κ → Bool) (W : Name → Nat → SimOut κ) (p : Name)
    (old : List (File κ)) (hold : ∀ e ∈ old, isKept e.name = true) (sims : List Nat)
    {l : List (File κ)} (hl : l.Perm (batchDir W p old sims)) :
    rejectsListing suf ok l = sims.any fun s => rejectsListing suf ok (simFiles p s (W p s)) := by
  have hold' : (old.any fun e => hasSuffix suf e.name && !isKept e.name && !ok e.content) = false :=
    List.any_eq_false.mpr fun e he => by simp [hold e he]
  rw [rejectsListing, hl.any_eq, batchDir, List.any_append, hold', Bool.false_or, List.any_flatMap]
  rfl

end


/-! ### the estimate-minus-correction join and the outer merge on permuted tables -/

theorem estJoin_perm {est est' rep rep' : Table (List Rat)} (he : est'.Perm est) (hr : rep'.Perm rep)
    (nd : (keys rep).Nodup) : (estJoin est' rep').Perm (estJoin est rep) := by
  have hc : ∀ (k : Key) (e : List Rat), estCell rep' k e = estCell rep k e := fun k e => by
    rw [estCell, lookup_perm hr (nodup_keys_of_perm hr.symm nd)]; rfl
  simp only [estJoin, hc]
  exact he.map _

theorem keys_estJoin (est rep : Table (List Rat)) : keys (estJoin est rep) = keys est := by
  simp [estJoin, keys, List.map_map, Function.comp_def]

theorem lookup_estJoin (est rep : Table (List Rat)) (k : Key) :
    List.lookup k (estJoin est rep) = (List.lookup k est).map (estCell rep k) := by
  unfold estJoin; exact lookup_map_val (fun k e => estCell rep k e) k est

theorem mergeOuter_perm {nE nY : Nat} {emis emis' : Table (List Val)} {est est' : Table (List Rat)}
    (he : emis'.Perm emis) (hj : est'.Perm est) (nd : (keys est).Nodup)
    (hsub : ∀ k ∈ keys est, k ∈ keys emis) :
    (mergeOuter nE nY emis' est').Perm (emis.map fun x => (x.1, mergeCell nY est x.1 x.2)) := by
  have h2 : (est'.filter fun x => (List.lookup x.1 emis').isNone) = [] :=
    List.filter_eq_nil_iff.mpr fun x hx => by
      exact (Bool.not_eq_true _).mpr (Option.isNone_eq_false_iff.mpr (lookup_isSome_of_mem _ _
        ((mem_keys_of_perm he _).mpr (hsub _ ((mem_keys_of_perm hj _).mp (List.mem_map_of_mem hx))))))
  have hc : ∀ x : Key × List Val, mergeCell nY est' x.1 x.2 = mergeCell nY est x.1 x.2 := fun x => by
    rw [mergeCell, lookup_perm hj (nodup_keys_of_perm hj.symm nd)]; rfl
  rw [mergeOuter, h2, List.map_nil, List.append_nil]
  simp only [hc]
  exact he.map _

/-! ### closed form of the rows one batch adds for one program -/

section
variable {κ : Type}

/-- the yearly estimated-emissions cells of a program-simulation, from its own two files -/
def estPart (S : Stats κ) (o : SimOut κ) : List Val :=
  match o.est with
  | none => List.replicate S.nYears (Val.q 0)
  | some e =>
    (match o.rep with
     | some r => List.zipWith floorSub (S.est e) (S.rep r)
     | none => (S.est e).map fun _ => 0).map Val.q

/-- the Timeseries Summary row of (p, s): a function of that pair's own timeseries file -/
def tsRowOf (S : Stats κ) (W : Name → Nat → SimOut κ) (p : Name) (s : Nat) : Key × List Val :=
  (key p s, S.ts (W p s).ts)

/-- the Emissions Summary row of (p, s): a function of that pair's own files -/
def emisRowOf (S : Stats κ) (W : Name → Nat → SimOut κ) (p : Name) (s : Nat) : Key × List Val :=
  (key p s, S.emis (W p s).emis ++ estPart S (W p s))

theorem tsRows_batch (S : Stats κ) (W : Name → Nat → SimOut κ) (p : Name) (hk : isKept p = false)
    (old : List (File κ)) (hold : ∀ e ∈ old, isKept e.name = true) (sims : List Nat)
    {l : List (File κ)} (hl : l.Perm (batchDir W p old sims)) :
    (tsRows S l).Perm (sims.map (tsRowOf S W p)) := by
  exact (summarize_batch tsSuffix S.ts W p old hold sims (fun s => some (S.ts (W p s).ts))
    (fun s => (summarize_simFiles S.ts p s _ hk).1) hl).trans (.of_eq (optRows_some p _ sims))

theorem emisRows_batch (S : Stats κ) (W : Name → Nat → SimOut κ) (p : Name) (hk : isKept p = false)
    (old : List (File κ)) (hold : ∀ e ∈ old, isKept e.name = true) (sims : List Nat) (nd : sims.Nodup)
    {le lest lrep : List (File κ)} (h1 : le.Perm (batchDir W p old sims))
    (h2 : lest.Perm (batchDir W p old sims)) (h3 : lrep.Perm (batchDir W p old sims)) :
    (emisRows S le lest lrep).Perm (sims.map (emisRowOf S W p)) := by
  have hE := (summarize_batch emisSuffix S.emis W p old hold sims (fun s => some (S.emis (W p s).emis))
    (fun s => (summarize_simFiles S.emis p s _ hk).2.1) h1).trans (.of_eq (optRows_some p _ sims))
  have hX := summarize_batch estSuffix S.est W p old hold sims (fun s => (W p s).est.map S.est)
    (fun s => (summarize_simFiles S.est p s _ hk).2.2.1) h2
  have hR := summarize_batch repSuffix S.rep W p old hold sims (fun s => (W p s).rep.map S.rep)
    (fun s => (summarize_simFiles S.rep p s _ hk).2.2.2) h3
  refine (mergeOuter_perm hE (estJoin_perm hX hR (nodup_keys_optRows p _ sims nd))
    (by rw [keys_estJoin]; exact nodup_keys_optRows p _ sims nd) ?_).trans (.of_eq ?_)
  · intro k hk'
    rw [keys_estJoin, keys_optRows] at hk'
    obtain ⟨s, hs, rfl⟩ := List.mem_map.mp hk'
    exact List.mem_map.mpr ⟨_, List.mem_map_of_mem (List.mem_filter.mp hs).1, rfl⟩
  · rw [List.map_map]
    refine List.map_congr_left fun s hs => ?_
    simp only [Function.comp, emisRowOf, mergeCell, lookup_estJoin, lookup_optRows, hs, if_true, estPart]
    unfold estCell
    rw [lookup_optRows, if_pos hs]
    cases (W p s).est <;> cases (W p s).rep <;> simp

end


/-! ### the batch loop -/

theorem flatMap_transpose {β γ δ : Type} (f : β → γ → δ) (ps : List β) (ss : List γ) :
    (ps.flatMap fun p => ss.map (f p)).Perm (ss.flatMap fun s => ps.map fun p => f p s) := by
  induction ps with
  | nil => simp
  | cons p ps ih =>
    simp only [List.flatMap_cons, List.map_cons]
    have h1 := List.flatMap_append_perm ss (fun s => [f p s]) (fun s => ps.map fun p => f p s)
    rw [← List.map_eq_flatMap] at h1
    exact (List.Perm.append_left _ ih).trans (by simpa using h1)

section
variable {κ : Type}

/-- every listing a schedule returns is a permutation of what it was given -/
def Sched.Valid (σ : Sched κ) : Prop :=
  (∀ b l, (σ.dirs b l).Perm l) ∧ (∀ b p l, (σ.ts b p l).Perm l) ∧ (∀ b p l, (σ.emis b p l).Perm l)
    ∧ (∀ b p l, (σ.est b p l).Perm l) ∧ (∀ b p l, (σ.rep b p l).Perm l)

/-- program names that do not collide with the two reserved names -/
def GoodProgs (progs : List Name) : Prop := ∀ p ∈ progs, isKept p = false ∧ p ≠ logsName

/-- one row per (program, simulation), computed from that pair's own files -/
def canonTs (S : Stats κ) (W : Name → Nat → SimOut κ) (progs : List Name) (sims : List Nat) : Table (List Val) :=
  sims.flatMap fun s => progs.map fun p => tsRowOf S W p s

def canonEmis (S : Stats κ) (W : Name → Nat → SimOut κ) (progs : List Name) (sims : List Nat) : Table (List Val) :=
  sims.flatMap fun s => progs.map fun p => emisRowOf S W p s

/-- the invariant of the batch loop once the simulations `done` are summarised -/
structure Inv (S : Stats κ) (W : Name → Nat → SimOut κ) (progs : List Name) (st : St κ) (done : List Nat) : Prop where
  names : st.dirs.map (·.1) = progs
  kept : ∀ pd ∈ st.dirs, ∀ e ∈ pd.2, isKept e.name = true
  ts : st.ts.Perm (canonTs S W progs done)
  emis : st.emis.Perm (canonEmis S W progs done)

theorem finish_kept (clear : Bool) (d : List (File κ)) : ∀ e ∈ finish clear d, isKept e.name = true := by
  intro e he
  cases clear
  · obtain ⟨f, _, rfl⟩ := List.mem_map.mp he
    split <;> simp [*, isKept_kept_append]
  · exact (List.mem_filter.mp he).2

theorem writeBatch_dirs (W : Name → Nat → SimOut κ) (sims : List Nat) (st : St κ) :
    (writeBatch W sims st).dirs = st.dirs.map fun pd => (pd.1, batchDir W pd.1 pd.2 sims) := rfl

theorem progDirs_eq (st : St κ) (h : ∀ pd ∈ st.dirs, pd.1 ≠ logsName) : progDirs st = st.dirs :=
  List.filter_eq_self.mpr fun pd hpd => by simpa using h pd hpd

theorem Inv.mem_progs {S : Stats κ} {W : Name → Nat → SimOut κ} {progs : List Name} {st : St κ} {done : List Nat}
    (h : Inv S W progs st done) : ∀ pd ∈ st.dirs, pd.1 ∈ progs := fun _ hpd =>
  h.names ▸ List.mem_map_of_mem hpd

theorem visitOf_writeBatch {S : Stats κ} {W : Name → Nat → SimOut κ} {progs : List Name} {st : St κ} {done : List Nat}
    (h : Inv S W progs st done) (hg : GoodProgs progs) (σ : Sched κ) (hd : ∀ b l, (σ.dirs b l).Perm l)
    (sims : List Nat) (b : Nat) :
    (visitOf σ b (writeBatch W sims st)).Perm (st.dirs.map fun pd => (pd.1,
      ({ ts := σ.ts b pd.1 (batchDir W pd.1 pd.2 sims), emis := σ.emis b pd.1 (batchDir W pd.1 pd.2 sims),
         est := σ.est b pd.1 (batchDir W pd.1 pd.2 sims), rep := σ.rep b pd.1 (batchDir W pd.1 pd.2 sims) } :
        Listings κ))) := by
  rw [visitOf, progDirs_eq _ fun pd hpd => by
    obtain ⟨q, hq, rfl⟩ := List.mem_map.mp hpd
    exact (hg q.1 (h.mem_progs q hq)).2, writeBatch_dirs]
  exact ((hd b _).map _).trans (.of_eq (List.map_map ..))

theorem step_inv (S : Stats κ) (W : Name → Nat → SimOut κ) (progs : List Name) (hg : GoodProgs progs)
    (σ : Sched κ) (hσ : σ.Valid) (st : St κ) (done : List Nat) (h : Inv S W progs st done)
    (b : Nat) (clear : Bool) (sims : List Nat) (nd : sims.Nodup) :
    Inv S W progs (genAll S clear (visitOf σ b (writeBatch W sims st)) (writeBatch W sims st)) (done ++ sims) := by
  obtain ⟨hd, hts, hem, hes, hre⟩ := hσ
  have hv := visitOf_writeBatch h hg σ hd sims b
  -- rows added by this call, program-major
  have rows_ts : ((visitOf σ b (writeBatch W sims st)).flatMap fun v => tsRows S v.2.ts).Perm
      (progs.flatMap fun p => sims.map (tsRowOf S W p)) := by
    refine (hv.flatMap_right _).trans ?_
    rw [List.flatMap_map, ← h.names, List.flatMap_map]
    exact List.Perm.flatMap_left _ fun pd hpd =>
      tsRows_batch S W pd.1 (hg _ (h.mem_progs pd hpd)).1 pd.2 (h.kept pd hpd) sims (hts b _ _)
  have rows_emis : ((visitOf σ b (writeBatch W sims st)).flatMap fun v => emisRows S v.2.emis v.2.est v.2.rep).Perm
      (progs.flatMap fun p => sims.map (emisRowOf S W p)) := by
    refine (hv.flatMap_right _).trans ?_
    rw [List.flatMap_map, ← h.names, List.flatMap_map]
    exact List.Perm.flatMap_left _ fun pd hpd =>
      emisRows_batch S W pd.1 (hg _ (h.mem_progs pd hpd)).1 pd.2 (h.kept pd hpd) sims nd (hem b _ _) (hes b _ _)
        (hre b _ _)
  refine { names := ?_, kept := ?_, ts := ?_, emis := ?_ }
  · simp only [genAll, writeBatch_dirs, List.map_map]
    rw [← h.names]
    refine List.map_congr_left fun pd _ => ?_
    simp only [Function.comp]
    split <;> rfl
  · intro pd hpd e he
    simp only [genAll, List.mem_map] at hpd
    obtain ⟨q, hq, rfl⟩ := hpd
    obtain ⟨r, hr, rfl⟩ := List.mem_map.mp hq
    rw [if_pos (by simpa using (hg r.1 (h.mem_progs r hr)).2)] at he
    exact finish_kept clear _ e he
  · exact (h.ts.append (rows_ts.trans (flatMap_transpose _ _ _))).trans (.of_eq List.flatMap_append.symm)
  · exact (h.emis.append (rows_emis.trans (flatMap_transpose _ _ _))).trans (.of_eq List.flatMap_append.symm)

/-- simulation numbers handled by the batches `cs` when the first of them has index `b` -/
def allSims : Nat → List Nat → List Nat
  | _, [] => []
  | b, c :: cs => batchSims b c ++ allSims (b + 1) cs

theorem nodup_batchSims (b c : Nat) : (batchSims b c).Nodup :=
  List.nodup_range.map fun _ _ h => Nat.add_left_cancel h

theorem runBatches_inv (S : Stats κ) (W : Name → Nat → SimOut κ) (progs : List Name) (hg : GoodProgs progs)
    (keepAll : Bool) (σ : Sched κ) (hσ : σ.Valid) (cs : List Nat) :
    ∀ (b : Nat) (st : St κ) (done : List Nat), Inv S W progs st done →
      Inv S W progs (runBatches S W keepAll σ b cs st) (done ++ allSims b cs) := by
  induction cs with
  | nil => intro b st done h; simpa [runBatches, allSims] using h
  | cons c cs ih =>
    intro b st done h
    simp only [runBatches, allSims]
    rw [← List.append_assoc]
    exact ih (b + 1) _ _ (step_inv S W progs hg σ hσ st done h b _ (batchSims b c) (nodup_batchSims b c))

theorem init_inv (S : Stats κ) (W : Name → Nat → SimOut κ) (progs : List Name) :
    Inv S W progs (initSt progs) [] :=
  ⟨List.map_map.trans (List.map_id _),
   fun pd hpd e he => by obtain ⟨p, _, rfl⟩ := List.mem_map.mp hpd; exact absurd he List.not_mem_nil,
   .refl _, .refl _⟩

end

/-! ### batching arithmetic -/

theorem allSims_replicate (q b : Nat) (t : List Nat) :
    allSims b (List.replicate q 5 ++ t) = (List.range (q * 5)).map (fun i => b * 5 + i) ++ allSims (b + q) t := by
  induction q generalizing b with
  | zero => simp
  | succ q ih =>
    simp only [List.replicate_succ, List.cons_append, allSims]
    rw [ih (b + 1)]
    have : (q + 1) * 5 = 5 + q * 5 := by omega
    rw [this, List.range_add, List.map_append, List.map_map, batchSims, List.append_assoc]
    congr 2
    · apply List.map_congr_left; intro i _; simp only [Function.comp]; omega
    · congr 1; omega

theorem allSims_batchSimulations (n : Nat) : allSims 0 (batchSimulations n) = List.range n := by
  unfold batchSimulations
  split
  · rw [allSims_replicate]
    conv => rhs; rw [show n = n / 5 * 5 + n % 5 by omega, List.range_add]
    split <;> simp_all [allSims, batchSims]
  · simp [allSims, batchSims]

section
variable {κ : Type}

theorem runAll_inv (S : Stats κ) (W : Name → Nat → SimOut κ) (progs : List Name) (hg : GoodProgs progs)
    (keepAll : Bool) (σ : Sched κ) (hσ : σ.Valid) (n : Nat) :
    Inv S W progs (runAll S W progs keepAll σ n) (List.range n) := by
  have h := runBatches_inv S W progs hg keepAll σ hσ (batchSimulations n) 0 _ [] (init_inv S W progs)
  rwa [List.nil_append, allSims_batchSimulations] at h

end

/-! ### which inputs the real code rejects -/

section
variable {κ : Type}

/-- (p, s) wrote a file the real code raises on -/
def badSim (S : Stats κ) (W : Name → Nat → SimOut κ) (p : Name) (s : Nat) : Bool :=
  !S.okTs (W p s).ts || !S.okEmis (W p s).emis || (((W p s).est.map fun e => !S.okEst e).getD false)

theorem rejectsVisit_batch (S : Stats κ) (W : Name → Nat → SimOut κ) (progs : List Name) (hg : GoodProgs progs)
    (σ : Sched κ) (hσ : σ.Valid) (st : St κ) (done : List Nat) (h : Inv S W progs st done) (b : Nat)
    (sims : List Nat) :
    rejectsVisit S (visitOf σ b (writeBatch W sims st)) = false ↔ ∀ p ∈ progs, ∀ s ∈ sims, badSim S W p s = false := by
  obtain ⟨hd, hts, hem, hes, _⟩ := hσ
  rw [rejectsVisit, (visitOf_writeBatch h hg σ hd sims b).any_eq, List.any_map, ← h.names, List.forall_mem_map,
    List.any_eq_false]
  refine forall₂_congr fun pd hpd => ?_
  have hk := (hg _ (h.mem_progs pd hpd)).1
  rw [Function.comp, rejectsListing_batch tsSuffix S.okTs W pd.1 pd.2 (h.kept pd hpd) sims (hts b _ _),
    rejectsListing_batch emisSuffix S.okEmis W pd.1 pd.2 (h.kept pd hpd) sims (hem b _ _),
    rejectsListing_batch estSuffix S.okEst W pd.1 pd.2 (h.kept pd hpd) sims (hes b _ _)]
  simp [rejects_simFiles _ _ _ _ hk, badSim, forall_and]

theorem runRejects_eq_false (S : Stats κ) (W : Name → Nat → SimOut κ) (progs : List Name) (hg : GoodProgs progs)
    (keepAll : Bool) (σ : Sched κ) (hσ : σ.Valid) (cs : List Nat) :
    ∀ (b : Nat) (st : St κ) (done : List Nat), Inv S W progs st done →
      (runRejects S W keepAll σ b cs st = false ↔ ∀ p ∈ progs, ∀ s ∈ allSims b cs, badSim S W p s = false) := by
  induction cs with
  | nil => intro b st done _; simp [runRejects, allSims]
  | cons c cs ih =>
    intro b st done h
    simp only [runRejects, allSims, Bool.or_eq_false_iff, List.mem_append]
    rw [rejectsVisit_batch S W progs hg σ hσ st done h b (batchSims b c),
      ih (b + 1) _ _ (step_inv S W progs hg σ hσ st done h b _ (batchSims b c) (nodup_batchSims b c))]
    exact ⟨fun ⟨h1, h2⟩ p hp s hs => hs.elim (h1 p hp s) (h2 p hp s),
      fun hall => ⟨fun p hp s hs => hall p hp s (.inl hs), fun p hp s hs => hall p hp s (.inr hs)⟩⟩

end

/-! ### keys and lookups of the closed form -/

def canonKeys (progs : List Name) (sims : List Nat) : List Key :=
  sims.flatMap fun s => progs.map fun p => key p s

theorem mem_canonKeys (progs : List Name) (sims : List Nat) (k : Key) :
    k ∈ canonKeys progs sims ↔ ∃ s ∈ sims, ∃ p ∈ progs, k = key p s := by
  simp [canonKeys, eq_comm]

theorem nodup_canonKeys (progs : List Name) (sims : List Nat) (hp : progs.Nodup) (hs : sims.Nodup) :
    (canonKeys progs sims).Nodup := by
  rw [canonKeys, List.nodup_flatMap]
  refine ⟨fun s _ => hp.map fun a b hab => (Prod.mk.inj hab).1, hs.imp fun hab k h1 h2 => ?_⟩
  obtain ⟨p, _, rfl⟩ := List.mem_map.mp h1
  obtain ⟨q, _, hq⟩ := List.mem_map.mp h2
  exact hab (simDigits_injective (Prod.mk.inj hq).2).symm

theorem keys_canon {α : Type} (f : Name → Nat → α) (progs : List Name) (sims : List Nat) :
    keys (sims.flatMap fun s => progs.map fun p => (key p s, f p s)) = canonKeys progs sims := by
  simp [keys, canonKeys, List.map_flatMap, Function.comp_def]

theorem lookup_canon {α : Type} (f : Name → Nat → α) {progs : List Name} {sims : List Nat}
    (hp : progs.Nodup) (hs : sims.Nodup) {p : Name} (hpm : p ∈ progs) {s : Nat} (hsm : s ∈ sims) :
    List.lookup (key p s) (sims.flatMap fun s => progs.map fun p => (key p s, f p s)) = some (f p s) :=
  lookup_of_mem_nodup (by rw [keys_canon]; exact nodup_canonKeys progs sims hp hs)
    (List.mem_flatMap.mpr ⟨s, hsm, List.mem_map.mpr ⟨p, hpm, rfl⟩⟩)

section
variable {κ : Type}

theorem keys_canonTs (S : Stats κ) (W : Name → Nat → SimOut κ) (progs : List Name) (sims : List Nat) :
    keys (canonTs S W progs sims) = canonKeys progs sims := keys_canon _ progs sims

theorem keys_canonEmis (S : Stats κ) (W : Name → Nat → SimOut κ) (progs : List Name) (sims : List Nat) :
    keys (canonEmis S W progs sims) = canonKeys progs sims := keys_canon _ progs sims

theorem lookup_canonTs (S : Stats κ) (W : Name → Nat → SimOut κ) (progs : List Name) (sims : List Nat)
    (hp : progs.Nodup) (hs : sims.Nodup) (p : Name) (hpm : p ∈ progs) (s : Nat) (hsm : s ∈ sims) :
    List.lookup (key p s) (canonTs S W progs sims) = some (S.ts (W p s).ts) :=
  lookup_canon _ hp hs hpm hsm

theorem lookup_canonEmis (S : Stats κ) (W : Name → Nat → SimOut κ) (progs : List Name) (sims : List Nat)
    (hp : progs.Nodup) (hs : sims.Nodup) (p : Name) (hpm : p ∈ progs) (s : Nat) (hsm : s ∈ sims) :
    List.lookup (key p s) (canonEmis S W progs sims) = some (S.emis (W p s).emis ++ estPart S (W p s)) :=
  lookup_canon _ hp hs hpm hsm

end

/-! ### cost summary -/

theorem nodup_keys_filter {α : Type} (t : Table α) (P : Key × α → Bool) (nd : (keys t).Nodup) :
    (keys (t.filter P)).Nodup :=
  List.Nodup.sublist (List.Sublist.map _ List.filter_sublist) nd

theorem costSummary_perm (nb : List Name) (econ : Name → Rat × Rat) (K : Rat)
    {emis emis' ts ts' : Table (List Val)} (he : emis'.Perm emis) (ht : ts'.Perm ts) (nd : (keys ts).Nodup) :
    (costSummary nb econ K emis' ts').Perm (costSummary nb econ K emis ts) := by
  unfold costSummary
  have hf := List.Perm.filter (fun y : Key × List Val => nb.contains y.1.1) ht
  have hl : ∀ k, List.lookup k (ts'.filter fun y => nb.contains y.1.1) = List.lookup k (ts.filter fun y => nb.contains y.1.1) :=
    fun k => lookup_perm hf (nodup_keys_of_perm hf.symm (nodup_keys_filter _ _ nd)) k
  simp only [hl]
  exact List.Perm.filterMap _ (List.Perm.filter _ he)

section
variable {κ : Type}

/-- the Cost Summary row of (p, s): that pair's own total mitigation and total cost and the two
formulas -/
def costRowOf (S : Stats κ) (W : Name → Nat → SimOut κ) (econ : Name → Rat × Rat) (K : Rat)
    (p : Name) (s : Nat) : Key × CostRow :=
  let mit := cell (S.emis (W p s).emis ++ estPart S (W p s)) mitCol
  let cost := cell (S.ts (W p s).ts) costCol
  (key p s, { mitigation := mit, totalCost := cost, ratio := costRatio mit cost (econ p).1,
              value := costValue mit K (econ p).2 })

theorem costSummary_canon (S : Stats κ) (W : Name → Nat → SimOut κ) (progs : List Name) (sims : List Nat)
    (hp : progs.Nodup) (hs : sims.Nodup) (nb : List Name) (econ : Name → Rat × Rat) (K : Rat) :
    costSummary nb econ K (canonEmis S W progs sims) (canonTs S W progs sims)
      = sims.flatMap fun s => (progs.filter fun p => nb.contains p).map fun p => costRowOf S W econ K p s := by
  unfold costSummary
  have ndf : (keys ((canonTs S W progs sims).filter fun y => nb.contains y.1.1)).Nodup :=
    nodup_keys_filter _ _ (by rw [keys_canonTs]; exact nodup_canonKeys progs sims hp hs)
  rw [canonEmis, List.filter_flatMap, List.filterMap_flatMap]
  refine List.flatMap_congr fun s hsm => ?_
  rw [List.filter_map, List.filterMap_map, ← List.filterMap_eq_map]
  refine List.filterMap_congr fun p hpm => ?_
  have hmem : (key p s, S.ts (W p s).ts) ∈ (canonTs S W progs sims).filter fun y => nb.contains y.1.1 :=
    List.mem_filter.mpr ⟨List.mem_flatMap.mpr ⟨s, hsm, List.mem_map.mpr ⟨p, (List.mem_filter.mp hpm).1, rfl⟩⟩,
      (List.mem_filter.mp hpm).2⟩
  simp only [Function.comp, emisRowOf, costRowOf, lookup_of_mem_nodup ndf hmem]
  rfl

end

/-! ### sums -/

/-- Σ_{i<j} f i -/
def sumTo (f : Nat → Rat) : Nat → Rat
  | 0 => 0
  | j + 1 => sumTo f j + f j

theorem sumR_eq_sum (l : List Rat) : sumR l = l.sum := by
  unfold sumR; exact List.sum_eq_foldl.symm

theorem sumR_nil : sumR [] = 0 := rfl

theorem sumR_cons (x : Rat) (l : List Rat) : sumR (x :: l) = x + sumR l := by simp [sumR_eq_sum]

theorem sumR_single (x : Rat) : sumR [x] = x := by simp [sumR]

theorem sumR_append (a b : List Rat) : sumR (a ++ b) = sumR a + sumR b := by simp [sumR_eq_sum]

theorem sumR_filterMap {β : Type} (f : β → Option Rat) (l : List β) :
    sumR (l.filterMap f) = sumR (l.map fun r => (f r).getD 0) := by
  simp only [sumR_eq_sum]
  induction l with
  | nil => rfl
  | cons a l ih => cases h : f a <;> simp [h, ih]

theorem sumR_map_add {β : Type} (f g : β → Rat) (l : List β) :
    sumR (l.map fun r => f r + g r) = sumR (l.map f) + sumR (l.map g) := by
  simp only [sumR_eq_sum, List.sum_map_add]

theorem sumI_eq_sumR (l : List Int) : sumI l = sumR (l.map fun x : Int => (Int.cast x : Rat)) := by
  rw [sumR_eq_sum, sumI, ← List.sum_eq_foldl]
  induction l with
  | nil => simp
  | cons a l ih => simp [ih]

theorem sumTo_sumR {β : Type} (g : Nat → β → Rat) (l : List β) (k : Nat) :
    sumTo (fun i => sumR (l.map (g i))) k = sumR (l.map fun r => sumTo (fun i => g i r) k) := by
  induction k with
  | zero => simp [sumTo, sumR_eq_sum]
  | succ k ih => simp only [sumTo, ih, sumR_map_add]

theorem sumTo_zero (f : Nat → Rat) (k : Nat) (h : ∀ i, i < k → f i = 0) : sumTo f k = 0 := by
  induction k with
  | zero => rfl
  | succ k ih => simp [sumTo, ih (fun i hi => h i (by omega)), h k (by omega)]

theorem sumTo_split (f : Nat → Rat) (a b : Nat) :
    sumTo f (a + b) = sumTo f a + sumTo (fun i => f (a + i)) b := by
  induction b with
  | zero => simp [sumTo]
  | succ b ih => rw [← Nat.add_assoc, sumTo, ih, sumTo]; ring

theorem sumTo_telescope (g : Nat → Rat) (k : Nat) : sumTo (fun i => g (i + 1) - g i) k = g k - g 0 := by
  induction k with
  | zero => simp [sumTo]
  | succ k ih => rw [sumTo, ih]; ring

theorem sumTo_eq_sumR_range (f : Nat → Rat) (k : Nat) : sumTo f k = sumR ((List.range k).map f) := by
  induction k with
  | zero => rfl
  | succ k ih => rw [sumTo, ih, List.range_succ, List.map_append, sumR_append]; simp [sumR_cons, sumR_nil]

/-! ### yearly share of a closed record -/

theorem share_closed (v : Int) (st en : Date) (y : Nat) :
    yearlyShare [(v, some st, some en)] y =
      if st.y ≤ y ∧ y ≤ en.y then
        (v : Rat) * (if st.y = y ∧ en.y = y then (1 : Rat) / 1
          else if st.y = y then (((⟨y, 12, 31⟩ : Date).ord - st.ord + 1 : Int) : Rat) / ((en.ord - st.ord + 1 : Int) : Rat)
          else if en.y = y then ((en.ord - (⟨y, 1, 1⟩ : Date).ord + 1 : Int) : Rat) / ((en.ord - st.ord + 1 : Int) : Rat)
          else (((⟨y, 12, 31⟩ : Date).ord - (⟨y, 1, 1⟩ : Date).ord + 1 : Int) : Rat) / ((en.ord - st.ord + 1 : Int) : Rat))
      else 0 := by
  unfold yearlyShare rowShare
  by_cases h : st.y ≤ y ∧ y ≤ en.y
  · simp only [List.filterMap_cons, List.filterMap_nil, h, and_self, if_true, decide_true, Bool.and_self, sumR_single]
    congr 1
    split_ifs <;> simp
  · simp only [List.filterMap_cons, List.filterMap_nil, h, if_false]
    rcases not_and_or.mp h with h1 | h1 <;> simp [h1, sumR]

/-- the ordinal up to which the years before `y` have counted the record `st .. en` -/
def countedBefore (st en : Date) (y : Nat) : Int :=
  if y ≤ st.y then st.ord else if en.y < y then en.ord + 1 else (⟨y, 1, 1⟩ : Date).ord

/-- every year's share, inside the record's years or not, is the part of the span between two
consecutive boundaries, so the shares telescope -/
theorem share_closed_counted (v : Int) (st en : Date) (hy : st.y ≤ en.y) (hT : en.ord - st.ord + 1 ≠ 0) (y : Nat) :
    yearlyShare [(v, some st, some en)] y
      = (v : Rat) * (countedBefore st en (y + 1) : Rat) / ((en.ord - st.ord + 1 : Int) : Rat)
        - (v : Rat) * (countedBefore st en y : Rat) / ((en.ord - st.ord + 1 : Int) : Rat) := by
  have hT' : ((en.ord - st.ord + 1 : Int) : Rat) ≠ 0 := by exact_mod_cast hT
  have e := eoy_succ y
  rw [share_closed, countedBefore, countedBefore]
  obtain h | h | h | h | h | h : (y = st.y ∧ y = en.y) ∨ y < st.y ∨ (y = st.y ∧ y < en.y) ∨ (st.y < y ∧ y < en.y) ∨
      (st.y < y ∧ y = en.y) ∨ en.y < y := by omega
  · simp (disch := omega) only [if_pos, if_neg]
    field_simp; push_cast; ring
  all_goals
    simp (disch := omega) only [if_pos, if_neg]
    push_cast [← e]; ring

theorem rowShare_closed (mx : Option Date) (y : Nat) (v : Int) (st : Option Date) (en : Date) :
    rowShare mx y (v, st, some en) = rowShare none y (v, st, some en) := by
  unfold rowShare; cases st <;> rfl

theorem yearlyShare_eq (rows : List (Int × Option Date × Option Date)) (y : Nat) :
    yearlyShare rows y = sumR (rows.map fun r => (rowShare (latestDate rows) y r).getD 0) :=
  sumR_filterMap _ _

theorem yearlyShare_single (r : Int × Option Date × Option Date) (y : Nat) (en : Date) (h : r.2.2 = some en) :
    yearlyShare [r] y = (rowShare none y r).getD 0 := by
  obtain ⟨v, st, e⟩ := r
  cases h
  rw [yearlyShare_eq, List.map_singleton, sumR_single, rowShare_closed]

theorem yearlyShare_closed_frame (rows : List (Int × Option Date × Option Date)) (y : Nat)
    (h : ∀ r ∈ rows, ∃ en, r.2.2 = some en) :
    yearlyShare rows y = sumR (rows.map fun r => yearlyShare [r] y) := by
  rw [yearlyShare_eq]
  congr 1
  refine List.map_congr_left fun r hr => ?_
  obtain ⟨en, he⟩ := h r hr
  obtain ⟨v, st, e⟩ := r
  cases he
  rw [yearlyShare_single _ y en rfl, rowShare_closed]

/-! ### records without end date -/

def ValidDate (d : Date) : Prop := 1 ≤ d.y ∧ 1 ≤ d.m ∧ d.m ≤ 12 ∧ 1 ≤ d.d ∧ d.d ≤ 31

theorem ord_le_eoy_same (d : Date) (h : ValidDate d) : d.ord ≤ (⟨d.y, 12, 31⟩ : Date).ord := by
  obtain ⟨_, h1, h2, h3, h4⟩ := h
  have := marchDays_lt d.y
  simp [Date.ord_eq, monthOffset]
  split <;> omega

theorem eoy_lt_succ (y : Nat) : (⟨y, 12, 31⟩ : Date).ord < (⟨y + 1, 12, 31⟩ : Date).ord := by
  have := marchDays_lt (y + 1)
  simp [Date.ord_eq] at this ⊢
  omega

theorem eoy_mono (a b : Nat) (ha : 1 ≤ a) (h : a ≤ b) : (⟨a, 12, 31⟩ : Date).ord ≤ (⟨b, 12, 31⟩ : Date).ord := by
  induction b with
  | zero => omega
  | succ b ih =>
    rcases Nat.eq_or_lt_of_le h with rfl | hlt
    · exact le_refl _
    · have := ih (by omega)
      have := eoy_lt_succ b
      omega

theorem ord_le_eoy (d : Date) (h : ValidDate d) (L : Nat) (hL : d.y ≤ L) : d.ord ≤ (⟨L, 12, 31⟩ : Date).ord :=
  le_trans (ord_le_eoy_same d h) (eoy_mono d.y L h.1 hL)

/-- an open row is the closed row that ends on Dec 31 of the frame's latest year -/
def closeRow (L : Nat) (r : Int × Option Date × Option Date) : Int × Option Date × Option Date :=
  (r.1, r.2.1, some (r.2.2.getD ⟨L, 12, 31⟩))

theorem rowShare_closeRow (m : Date) (y : Nat) (r : Int × Option Date × Option Date) :
    rowShare (some m) y r = rowShare none y (closeRow m.y r) := by
  obtain ⟨v, st, en⟩ := r
  cases st with
  | none => rfl
  | some st => cases en <;> rfl

theorem yearlyShare_latest (rows : List (Int × Option Date × Option Date)) (y : Nat) (m : Date)
    (hm : latestDate rows = some m) :
    yearlyShare rows y = sumR (rows.map fun r => yearlyShare [closeRow m.y r] y) := by
  rw [yearlyShare_eq, hm]
  congr 1
  refine List.map_congr_left fun r _ => ?_
  rw [yearlyShare_single (closeRow m.y r) y _ rfl, rowShare_closeRow]

end LdarModel.Summary
