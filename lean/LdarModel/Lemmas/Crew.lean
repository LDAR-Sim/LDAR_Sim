import LdarModel.Model.Crew
/-
Lemmas for the survey step and the crew day.  The step is taken apart arm by arm; one pass of the loop
of `deploy_crews` is described once (`serve_cases`), and what holds of a whole day is an invariant of
that loop (`serveAll_induct`).  Core Lean only (omega / simp / grind).
-/
namespace LdarModel.Crew

/-! ### the survey step -/

/-- hypotheses under which the minutes of a step make sense: non-negative remaining / travel time,
`0 ≤ P ≤ S`, and a stationary method never accumulates survey minutes -/
structure StepOk (R S T P : Int) (stationary : Bool) : Prop where
  hR : 0 ≤ R
  hT : 0 ≤ T
  hP : 0 ≤ P
  hPS : P ≤ S
  hSt : stationary = true → P = 0

theorem step_unworkable (R S T P : Int) (st : Bool) :
    surveyStep R S T P st false =
      { rem := R, surveyed := P, branch := .unworkable, complete := false, inProgress := false,
        last := false, visited := false, travel := 0, today := 0 } := by
  simp [surveyStep]

theorem step_minutes {R S T P : Int} {st : Bool} (h : StepOk R S T P st) (w : Bool) :
    let o := surveyStep R S T P st w
    o.rem + o.travel + o.today = R ∧ 0 ≤ o.rem ∧ 0 ≤ o.travel ∧ 0 ≤ o.today ∧
    (o.branch = .complete ∨ o.branch = .partial_ → o.travel ≤ o.rem) ∧
    (¬ (o.branch = .complete ∨ o.branch = .partial_) → o.rem = R ∧ o.travel = 0 ∧ o.today = 0) := by
  obtain ⟨hR, hT, hP, hPS, hSt⟩ := h
  cases w
  · simp [surveyStep, hR]
  · cases st
    · by_cases h1 : R ≥ S + T * 2 - P
      · simp [surveyStep, effS, effT, h1]; omega
      · by_cases h2 : R > 2 * T
        · simp [surveyStep, effS, effT, h1, h2]; omega
        · simp [surveyStep, effS, effT, h1, h2, hR]
    · simp [surveyStep, effS, effT, hSt rfl, hR]

theorem step_surveyed {R S T P : Int} {st : Bool} (h : StepOk R S T P st) (w : Bool) :
    let o := surveyStep R S T P st w
    o.surveyed = P + o.today ∧ 0 ≤ o.today ∧
    (o.complete = true → o.surveyed = effS st S) ∧
    (o.inProgress = true → P < o.surveyed ∧ o.surveyed < S ∧ st = false) ∧
    (o.complete = false → o.inProgress = false → o.surveyed = P) := by
  obtain ⟨hR, hT, hP, hPS, hSt⟩ := h
  cases w
  · simp [surveyStep]
  · cases st
    · by_cases h1 : R ≥ S + T * 2 - P
      · simp [surveyStep, effS, effT, h1]; omega
      · by_cases h2 : R > 2 * T
        · simp [surveyStep, effS, effT, h1, h2]; omega
        · simp [surveyStep, effS, effT, h1, h2]
    · simp [surveyStep, effS, effT, hSt rfl]

theorem step_complete_iff (R S T P : Int) (st w : Bool) :
    (surveyStep R S T P st w).complete = true ↔ (surveyStep R S T P st w).branch = .complete := by
  unfold surveyStep
  grind

theorem step_visited_iff (R S T P : Int) (st w : Bool) :
    (surveyStep R S T P st w).visited = true ↔ w = true := by
  unfold surveyStep
  grind

theorem step_partial_last (R S T P : Int) (st w : Bool)
    (hb : (surveyStep R S T P st w).branch = .partial_) : (surveyStep R S T P st w).last = true := by
  revert hb
  unfold surveyStep
  grind

theorem applyStep_step (rep : Report) (R S T : Int) (st w : Bool) :
    let o := surveyStep R S T rep.surveyed st w
    (applyStep rep o).surveyed = o.surveyed ∧
    (applyStep rep o).complete = (rep.complete || o.complete) ∧
    (applyStep rep o).inProgress = (!o.complete && (o.inProgress || rep.inProgress)) := by
  unfold surveyStep applyStep
  grind

/-! ### one survey over several days: `minutes_add_up` -/

/-- state of a report between days: minutes within `[0, S]`; complete ⇔ all minutes done (and the
report is no longer in progress); in progress ⇒ strictly inside; not started ⇒ zero -/
structure ReportInv (stationary : Bool) (S : Int) (rep : Report) : Prop where
  nonneg : 0 ≤ rep.surveyed
  le : rep.surveyed ≤ S
  done : rep.complete = true → rep.surveyed = effS stationary S ∧ rep.inProgress = false
  prog : rep.complete = false → rep.inProgress = true → 0 < rep.surveyed ∧ rep.surveyed < S ∧ stationary = false
  idle : rep.complete = false → rep.inProgress = false → rep.surveyed = 0

theorem reportInv_fresh (st : Bool) (S : Int) (hS : 0 ≤ S) : ReportInv st S {} :=
  ⟨Int.le_refl 0, hS, nofun, nofun, fun _ _ => rfl⟩

theorem reportInv_stepOk {st : Bool} {S : Int} {rep : Report} (h : ReportInv st S rep)
    (hc : rep.complete = false) {R T : Int} (hR : 0 ≤ R) (hT : 0 ≤ T) :
    StepOk R S T rep.surveyed st := by
  refine ⟨hR, hT, h.nonneg, h.le, fun hst => ?_⟩
  cases hip : rep.inProgress
  · exact h.idle hc hip
  · have := (h.prog hc hip).2.2; simp [hst] at this

theorem surveyDay_inv {st : Bool} {S : Int} {rep : Report} (h : ReportInv st S rep)
    (d : DayIn) (hR : 0 ≤ d.R) (hT : 0 ≤ d.T) :
    ReportInv st S (surveyDay st S rep d).1 ∧
    (surveyDay st S rep d).1.surveyed = rep.surveyed + (surveyDay st S rep d).2 ∧
    0 ≤ (surveyDay st S rep d).2 := by
  unfold surveyDay
  split
  · exact ⟨h, (Int.add_zero _).symm, Int.le_refl 0⟩
  · rename_i hc
    have hc' : rep.complete = false := by
      cases hcc : rep.complete <;> simp [hcc] at hc ⊢
    obtain ⟨s1, s2, s3, s4, s5⟩ := step_surveyed (reportInv_stepOk h hc' hR hT) d.workable
    obtain ⟨a1, a2, a3⟩ := applyStep_step rep d.R S d.T st d.workable
    obtain ⟨h1, h2, h3, h4, h5⟩ := h
    have hE : effS st S = if st = true then 0 else S := rfl
    generalize surveyStep d.R S d.T rep.surveyed st d.workable = o at *
    rw [hc', Bool.false_or] at a2
    refine ⟨?_, a1.trans s1, s2⟩
    cases hoc : o.complete with
    | true =>
      -- completed: all (effective) minutes are done
      have e := a1.trans (s3 hoc)
      have hcm := a2.trans hoc
      refine ⟨by rw [e, hE]; split <;> omega, by rw [e, hE]; split <;> omega,
        fun _ => ⟨e, by rw [a3, hoc]; rfl⟩, fun h => ?_, fun h => ?_⟩
      · rw [hcm] at h; cases h
      · rw [hcm] at h; cases h
    | false =>
      have hcm := a2.trans hoc
      cases hoi : o.inProgress with
      | true =>
        -- left in progress: strictly inside `(P, S)`, which only a mobile method does
        obtain ⟨b1, b2, b3⟩ := s4 hoi
        have e : (applyStep rep o).surveyed = o.surveyed := a1
        refine ⟨by rw [e]; omega, by rw [e]; omega, fun h => ?_,
          fun _ _ => ⟨by rw [e]; omega, by rw [e]; omega, b3⟩, fun _ h => ?_⟩
        · rw [hcm] at h; cases h
        · rw [a3, hoc, hoi] at h; cases h
      | false =>
        -- nothing surveyed: minutes and progress flag are the old ones
        have e := a1.trans (s5 hoc hoi)
        have hi : (applyStep rep o).inProgress = rep.inProgress := by rw [a3, hoc, hoi]; rfl
        refine ⟨e ▸ h1, e ▸ h2, fun h => ?_, fun _ h => e ▸ h4 hc' (hi ▸ h), fun _ h => e ▸ h5 hc' (hi ▸ h)⟩
        rw [hcm] at h; cases h

/-- **minutes add up.**  Over the days of one survey (any remaining crew minutes, sampled travel
times, weather outcomes and crew shortages), starting from a fresh report: the minutes surveyed per
day sum to the minutes on the report; at completion that is the site's survey time; while the
survey is in progress `0 < P < S`; a survey that has not started has `P = 0`. -/
theorem minutes_add_up (stationary : Bool) (S : Int) (hS : 0 ≤ S) (days : List DayIn)
    (hd : ∀ d ∈ days, 0 ≤ d.R ∧ 0 ≤ d.T) (rep : Report) (acc : Int)
    (hrep : ReportInv stationary S rep) (hacc : acc = rep.surveyed) :
    let r := surveyRun stationary S days rep acc
    r.2 = r.1.surveyed ∧ ReportInv stationary S r.1 := by
  induction days generalizing rep acc with
  | nil => simp [surveyRun, hacc, hrep]
  | cons d ds ih =>
    simp only [surveyRun]
    have hd0 := hd d (by simp)
    have := surveyDay_inv hrep d hd0.1 hd0.2
    exact ih (fun x hx => hd x (by simp [hx])) _ _ this.1 (by omega)

theorem minutes_add_up_fresh (stationary : Bool) (S : Int) (hS : 0 ≤ S) (days : List DayIn)
    (hd : ∀ d ∈ days, 0 ≤ d.R ∧ 0 ≤ d.T) :
    let r := surveyRun stationary S days {} 0
    r.2 = r.1.surveyed ∧
    (r.1.complete = true → r.2 = effS stationary S) ∧
    (r.1.complete = false → r.1.inProgress = true → 0 < r.1.surveyed ∧ r.1.surveyed < S) ∧
    (r.1.complete = false → r.1.inProgress = false → r.1.surveyed = 0) := by
  have h := minutes_add_up stationary S hS days hd {} 0 (reportInv_fresh stationary S hS) rfl
  simp only at h ⊢
  obtain ⟨h1, h2⟩ := h
  refine ⟨h1, ?_, ?_, h2.idle⟩
  · intro hc; rw [h1]; exact (h2.done hc).1
  · intro hc hp; exact ⟨(h2.prog hc hp).1, (h2.prog hc hp).2.1⟩

/-! ### the crew day -/

/-- a planned request as the schedule hands it over -/
structure ReqOk (p : MethodP) (r : Req) : Prop where
  hT : 0 ≤ r.T
  hP : 0 ≤ r.rep.surveyed
  hPS : r.rep.surveyed ≤ r.S
  hSt : p.stationary = true → r.rep.surveyed = 0
  hC : r.rep.complete = false

theorem ReqOk.stepOk {p : MethodP} {r : Req} (h : ReqOk p r) {R : Int} (hR : 0 ≤ R) :
    StepOk R r.S r.T r.rep.surveyed p.stationary :=
  ⟨hR, h.hT, h.hP, h.hPS, h.hSt⟩

theorem pick_mem : ∀ {cs : List CrewSt} {c : CrewSt}, pick cs = some c → c ∈ cs ∧ c.queued = true
  | [], c, h => by simp [pick] at h
  | x :: xs, c, h => by
    unfold pick at h
    cases hp : pick xs with
    | none =>
      simp only [hp] at h
      split at h
      · cases h; exact ⟨by simp, ‹_›⟩
      · cases h
    | some d =>
      simp only [hp] at h
      split at h
      · rename_i hb
        cases h
        exact ⟨by simp, (Bool.and_eq_true_iff.1 hb).1⟩
      · cases h
        exact ⟨by simp [(pick_mem hp).1], (pick_mem hp).2⟩

theorem serveAll_induct (p : MethodP) (I : DaySt → Prop) (ok : Req → Prop)
    (hstep : ∀ st r, ok r → I st → I (serve p st r)) :
    ∀ (reqs : List Req) (st : DaySt), (∀ r ∈ reqs, ok r) → I st → I (serveAll p st reqs)
  | [], st, _, h0 => by simpa [serveAll] using h0
  | r :: rs, st, hreq, h0 => by
    have := serveAll_induct p I ok hstep rs (serve p st r) (fun x hx => hreq x (by simp [hx]))
      (hstep st r (hreq r (by simp)) h0)
    simpa [serveAll] using this

/-- per-crew invariant of the day: minutes left are non-negative; everything charged so far plus
the trip home is within the budget; a crew still in the queue has spent exactly budget − remaining
and can still afford its trip home -/
structure CrewInv (budget : Int) (n : Nat) (c : CrewSt) : Prop where
  rem : 0 ≤ c.rem
  fits : c.spent + c.home ≤ budget
  live : c.queued = true → c.spent + c.rem = budget ∧ c.home ≤ c.rem
  id : c.id < n

theorem crewInv_init (budget : Int) (hb : 0 ≤ budget) (n : Nat) :
    ∀ c ∈ initCrews budget n, CrewInv budget n c := by
  intro c hc
  simp only [initCrews, List.mem_map, List.mem_range] at hc
  obtain ⟨i, hi, rfl⟩ := hc
  exact ⟨hb, by simpa using hb, fun _ => ⟨Int.zero_add _, hb⟩, hi⟩

theorem crewAfter_inv {budget : Int} {n : Nat} {c : CrewSt} (hc : CrewInv budget n c)
    (hq : c.queued = true) {S T P : Int} {st : Bool} (ok : StepOk c.rem S T P st) (w : Bool) :
    CrewInv budget n (crewAfter c (surveyStep c.rem S T P st w)) := by
  obtain ⟨h1, h2, h3, h4, h5, h6⟩ := step_minutes ok w
  obtain ⟨c1, c4, c5, c6⟩ := hc
  obtain ⟨c7, c8⟩ := c5 hq
  generalize surveyStep c.rem S T P st w = o at *
  -- the trip home after the step fits into what the step leaves
  have hh : (if o.branch = .complete ∨ o.branch = .partial_ then o.travel else c.home) ≤ o.rem := by
    split
    · exact h5 ‹_›
    · have := h6 ‹_›; omega
  refine ⟨?_, by simp only [crewAfter]; omega, fun hq' => ?_, c6⟩
  · simp only [crewAfter]; split <;> omega
  · simp only [crewAfter, decide_eq_true_eq] at hq' ⊢
    cases hl : o.last <;> simp only [hl, if_true, Bool.false_eq_true, if_false] at hq' ⊢ <;> omega

theorem serve_cases (p : MethodP) (st : DaySt) (r : Req) :
    ((serve p st r).crews = st.crews ∧
      (serve p st r).out = st.out ++ [{ req := r, rep := r.rep, crew := none, step := none }]) ∨
    (∃ c ∈ st.crews, c.queued = true ∧
      (serve p st r).crews =
        replaceCrew (crewAfter c (surveyStep c.rem r.S r.T r.rep.surveyed p.stationary (workable p r))) st.crews ∧
      (serve p st r).out = st.out ++
        [{ req := r, rep := applyStep r.rep (surveyStep c.rem r.S r.T r.rep.surveyed p.stationary (workable p r)),
           crew := some c.id, step := some (surveyStep c.rem r.S r.T r.rep.surveyed p.stationary (workable p r)),
           rBefore := c.rem }]) := by
  unfold serve
  cases hp : pick st.crews with
  | none => exact .inl ⟨rfl, rfl⟩
  | some c => exact .inr ⟨c, (pick_mem hp).1, (pick_mem hp).2, rfl, rfl⟩

theorem mem_replaceCrew {c' x : CrewSt} {cs : List CrewSt} (h : x ∈ replaceCrew c' cs) :
    (x = c') ∨ (x ∈ cs ∧ x.id ≠ c'.id) := by
  obtain ⟨y, hy, rfl⟩ := List.mem_map.1 h
  split
  · exact .inl rfl
  · rename_i hne; exact .inr ⟨hy, hne⟩

theorem finalize_crews (p : MethodP) (k : Nat) (st : DaySt) : (finalize p k st).crews = st.crews := by
  unfold finalize
  split
  · rfl
  · split <;> rfl

theorem finalize_out (p : MethodP) (k : Nat) (st : DaySt) : (finalize p k st).out = st.out := by
  unfold finalize
  split
  · rfl
  · split <;> rfl

/-! ### the ghost counters are what the visit trace says -/

def visitMinutes (o : OutRec) : Int :=
  match o.step with
  | some s => s.travel + s.today
  | none => 0

/-- sum over the visits of crew `id` of travel charged + minutes surveyed -/
def crewMinutes (id : Nat) (out : List OutRec) : Int :=
  ((out.filter (fun o => o.crew = some id)).map visitMinutes).sum

/-- the crew was sent to a site it could visit at least once -/
def crewVisited (id : Nat) (out : List OutRec) : Bool :=
  out.any (fun o => o.crew = some id && (match o.step with | some s => s.visited | none => false))

/-- the trip home of a crew read off the visit trace: travel time of the last site it reached -/
def crewHome (id : Nat) (out : List OutRec) : Int :=
  out.foldl (fun h o =>
    if o.crew = some id then
      match o.step with
      | some s => if s.branch = .complete ∨ s.branch = .partial_ then s.travel else h
      | none => h
    else h) 0

structure TraceInv (st : DaySt) : Prop where
  spent : ∀ c ∈ st.crews, c.spent = crewMinutes c.id st.out
  dep : ∀ c ∈ st.crews, c.deployed = crewVisited c.id st.out
  home : ∀ c ∈ st.crews, c.home = crewHome c.id st.out

theorem traceInv_iff (st : DaySt) : TraceInv st ↔ ∀ c ∈ st.crews,
    c.spent = crewMinutes c.id st.out ∧ c.deployed = crewVisited c.id st.out ∧ c.home = crewHome c.id st.out :=
  ⟨fun h c hc => ⟨h.spent c hc, h.dep c hc, h.home c hc⟩,
   fun h => ⟨fun c hc => (h c hc).1, fun c hc => (h c hc).2.1, fun c hc => (h c hc).2.2⟩⟩

theorem serve_traceInv (p : MethodP) (st : DaySt) (r : Req) (h : TraceInv st) :
    TraceInv (serve p st r) := by
  rcases serve_cases p st r with ⟨hc, ho⟩ | ⟨k, hk, _, hc, ho⟩
  · -- no crew left: a record without crew changes no crew's trace
    rw [traceInv_iff, ho, hc]
    intro c hm
    have := (traceInv_iff st).1 h c hm
    simp [crewMinutes, crewVisited, crewHome, List.filter_append, List.foldl_append, this]
  · -- crew `k` was sent: its own fields and its own trace move together, the others keep both
    rw [traceInv_iff, ho, hc]
    intro c hm
    rcases mem_replaceCrew hm with rfl | ⟨hm', hne⟩
    · have := (traceInv_iff st).1 h k hk
      simp [crewAfter, crewMinutes, crewVisited, crewHome, visitMinutes, List.filter_append,
        List.foldl_append, this]
      omega
    · have := (traceInv_iff st).1 h c hm'
      have hne' : k.id ≠ c.id := fun e => hne e.symm
      simp [crewMinutes, crewVisited, crewHome, List.filter_append, List.foldl_append, this, hne']

theorem deployDay_traceInv (p : MethodP) (budget : Int) (n : Nat) (reqs : List Req) :
    TraceInv (deployDay p budget n reqs) := by
  have h := serveAll_induct p TraceInv (fun _ => True) (fun st r _ h => serve_traceInv p st r h) reqs
    { crews := initCrews budget n } (fun _ _ => trivial)
    ⟨by simp [initCrews, crewMinutes], by simp [initCrews, crewVisited], by simp [initCrews, crewHome]⟩
  rw [deployDay, traceInv_iff, finalize_crews, finalize_out]
  exact (traceInv_iff _).1 h

/-! ### the output list is the work plan, one record per request -/

/-- every record of the day is a faithful record of `survey_site` on its own request -/
def RecOk (p : MethodP) (o : OutRec) : Prop :=
  (∀ s, o.step = some s → s = surveyStep o.rBefore o.req.S o.req.T o.req.rep.surveyed p.stationary (workable p o.req)
      ∧ o.rep = applyStep o.req.rep s ∧ o.crew ≠ none) ∧
  (o.step = none → o.rep = o.req.rep ∧ o.crew = none)

theorem serve_out (p : MethodP) (st : DaySt) (r : Req) :
    ∃ o, (serve p st r).out = st.out ++ [o] ∧ o.req = r ∧ RecOk p o := by
  rcases serve_cases p st r with ⟨_, ho⟩ | ⟨k, _, _, _, ho⟩
  · exact ⟨_, ho, rfl, by simp [RecOk]⟩
  · exact ⟨_, ho, rfl, by simp [RecOk]⟩

theorem serveAll_reqs (p : MethodP) : ∀ (reqs : List Req) (st : DaySt),
    (serveAll p st reqs).out.map (·.req) = st.out.map (·.req) ++ reqs
  | [], st => by simp [serveAll]
  | r :: rs, st => by
    have ih := serveAll_reqs p rs (serve p st r)
    obtain ⟨o, h1, h2, _⟩ := serve_out p st r
    simp only [serveAll, List.foldl_cons] at ih ⊢
    rw [ih, h1]; simp [h2]

theorem deployDay_reqs (p : MethodP) (budget : Int) (n : Nat) (reqs : List Req) :
    (deployDay p budget n reqs).out.map (·.req) = reqs := by
  unfold deployDay; rw [finalize_out, serveAll_reqs]; rfl

theorem deployDay_req_mem {p : MethodP} {budget : Int} {n : Nat} {reqs : List Req} {o : OutRec}
    (ho : o ∈ (deployDay p budget n reqs).out) : o.req ∈ reqs := by
  rw [← deployDay_reqs p budget n reqs]; exact List.mem_map.2 ⟨o, ho, rfl⟩

theorem deployDay_recOk (p : MethodP) (budget : Int) (n : Nat) (reqs : List Req) :
    ∀ o ∈ (deployDay p budget n reqs).out, RecOk p o := by
  unfold deployDay
  rw [finalize_out]
  refine serveAll_induct p (fun st => ∀ o ∈ st.out, RecOk p o) (fun _ => True) ?_ reqs _
    (fun _ _ => trivial) (by simp)
  intro st r _ h o ho
  obtain ⟨o', h1, _, h3⟩ := serve_out p st r
  rw [h1] at ho
  rcases List.mem_append.1 ho with ho | ho
  · exact h o ho
  · exact List.mem_singleton.1 ho ▸ h3

/-! ### bookkeeping invariants of the day: crew minutes, crew count, crew ids, minutes handed to a visit -/

structure BookInv (budget : Int) (n : Nat) (st : DaySt) : Prop where
  crews : ∀ c ∈ st.crews, CrewInv budget n c
  len : st.crews.length = n
  rb : ∀ o ∈ st.out, 0 ≤ o.rBefore
  ids : ∀ o ∈ st.out, ∀ k, o.crew = some k → k < n

theorem serve_bookInv (p : MethodP) (budget : Int) (n : Nat) (st : DaySt) (r : Req) (hr : ReqOk p r)
    (h : BookInv budget n st) : BookInv budget n (serve p st r) := by
  rcases serve_cases p st r with ⟨hc, ho⟩ | ⟨k, hk, hq, hc, ho⟩
  · -- no crew left: the new record names no crew and its `rBefore` is the default 0
    refine ⟨hc ▸ h.crews, hc ▸ h.len, ?_, ?_⟩
    · rw [ho, List.forall_mem_append, List.forall_mem_singleton]
      exact ⟨h.rb, Int.le_refl 0⟩
    · rw [ho, List.forall_mem_append, List.forall_mem_singleton]
      exact ⟨h.ids, fun j hj => nomatch hj⟩
  · -- crew `k` was sent with its own minutes
    have ik := h.crews k hk
    refine ⟨fun c hm => ?_, by rw [hc]; simp [replaceCrew, h.len], ?_, ?_⟩
    · rw [hc] at hm
      rcases mem_replaceCrew hm with rfl | ⟨hm, _⟩
      · exact crewAfter_inv ik hq (hr.stepOk ik.rem) (workable p r)
      · exact h.crews c hm
    · rw [ho, List.forall_mem_append, List.forall_mem_singleton]
      exact ⟨h.rb, ik.rem⟩
    · rw [ho, List.forall_mem_append, List.forall_mem_singleton]
      exact ⟨h.ids, fun j hj => Option.some.inj hj ▸ ik.id⟩

theorem deployDay_bookInv (p : MethodP) (budget : Int) (hb : 0 ≤ budget) (n : Nat) (reqs : List Req)
    (hreq : ∀ r ∈ reqs, ReqOk p r) : BookInv budget n (deployDay p budget n reqs) := by
  have h := serveAll_induct p (BookInv budget n) (ReqOk p)
    (fun st r hr h => serve_bookInv p budget n st r hr h) reqs { crews := initCrews budget n } hreq
    ⟨crewInv_init budget hb n, by simp [initCrews], by simp, by simp⟩
  unfold deployDay
  exact ⟨by rw [finalize_crews]; exact h.crews, by rw [finalize_crews]; exact h.len,
         by rw [finalize_out]; exact h.rb, by rw [finalize_out]; exact h.ids⟩

end LdarModel.Crew
