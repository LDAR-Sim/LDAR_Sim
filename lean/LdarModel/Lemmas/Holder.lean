import LdarModel.Model.Holder
import LdarModel.Lemmas.Tree
import Std.Data.String.ToNat
/-
Lemmas about the holder / variator model (`Model/Holder.lean`).  The nested update
(`update_nested_dictionary` / `_merge_variation`) is characterised path by path like `retain_update`
(`upd_touched`, `upd_untouched`); altering a holder is the nested update of its dictionary
(`alterAll_eq_upd`), so a set is the base after a sequence of nested updates by one-entry
dictionaries (`alterSeq_step`), and the last one that reaches a path decides its value.
Inversion lemmas follow the branches of the definition, as in `Lemmas/Tree.lean`; only the three
about `alterD` (seventeen branches) open all of them at once with `repeat' split at h`.
-/
namespace LdarModel.Holder
open LdarModel.Tree

theorem upd_cons_leaf (cur : KV) (k : String) (v : J) (rest : KV) (h : v.isObj = false) :
    updNested cur (.cons k v rest) = updNested (cur.setKey k v) rest := by
  cases v <;> simp_all [updNested, J.isObj]

/-- the value one loop iteration stores under its key -/
def updValue (cur : KV) (k : String) (v : J) : J :=
  match v with
  | .obj vk =>
    match cur.lookup k with
    | some (.obj ck) => .obj (updNested ck vk)
    | _ => .obj vk
  | leaf => leaf

theorem updValue_congr {a b : KV} {k : String} (h : a.lookup k = b.lookup k) (v : J) :
    updValue a k v = updValue b k v := by
  unfold updValue
  rw [h]

theorem updValue_obj_obj {cur ck vk : KV} {k : String} (h : cur.lookup k = some (.obj ck)) :
    updValue cur k (.obj vk) = .obj (updNested ck vk) := by
  simp only [updValue, h]

theorem updValue_obj_other {cur vk : KV} {k : String} {c : J} (h : cur.lookup k = some c)
    (hc : ∀ ck, c = .obj ck → False) : updValue cur k (.obj vk) = .obj vk := by
  simp only [updValue, h]
  cases c <;> first | rfl | exact (hc _ rfl).elim

theorem upd_cons (cur : KV) (k : String) (v : J) (rest : KV) :
    updNested cur (.cons k v rest) = updNested (cur.setKey k (updValue cur k v)) rest := by
  cases v with
  | obj vk =>
    simp only [updNested, updValue]
    split <;> simp_all
  | _ => simp [updNested, updValue]

theorem upd_lookup_other : ∀ (u cur : KV) (k : String), k ∉ u.keys →
    (updNested cur u).lookup k = cur.lookup k
  | .nil, cur, k, _ => by simp [updNested]
  | .cons k0 v0 rest, cur, k, hk => by
    simp only [KV.keys, List.mem_cons, not_or] at hk
    rw [upd_cons, upd_lookup_other rest _ k hk.2, KV.lookup_setKey_ne _ hk.1]

theorem upd_lookup_hit : ∀ (u cur : KV) (k : String) (v0 : J), u.wf = true →
    u.lookup k = some v0 → (updNested cur u).lookup k = some (updValue cur k v0)
  | .nil, _, _, _, _, hl => by simp [KV.lookup] at hl
  | .cons k0 v' rest, cur, k, v0, hwf, hl => by
    obtain ⟨hk0, _, hwfr⟩ := KV.wf_cons hwf
    rw [upd_cons]
    by_cases hk : k0 = k
    · subst hk
      simp only [KV.lookup, if_true] at hl
      cases hl
      rw [upd_lookup_other rest _ k0 hk0, KV.lookup_setKey_same]
    · simp only [KV.lookup, hk, if_false] at hl
      rw [upd_lookup_hit rest _ k v0 hwfr hl]
      have hlk : (cur.setKey k0 (updValue cur k0 v')).lookup k = cur.lookup k :=
        KV.lookup_setKey_ne _ (Ne.symm hk) cur
      rw [updValue_congr hlk]

theorem upd_keys_of_mem : ∀ (u cur : KV), (∀ k, k ∈ u.keys → k ∈ cur.keys) →
    (updNested cur u).keys = cur.keys
  | .nil, cur, _ => by simp [updNested]
  | .cons k0 v0 rest, cur, h => by
    have hk0 : k0 ∈ cur.keys := h k0 (by simp [KV.keys])
    have hkeys := KV.keys_setKey_of_mem k0 (updValue cur k0 v0) cur hk0
    rw [upd_cons, upd_keys_of_mem rest _ (by
      intro k hm; rw [hkeys]; exact h k (by simp [KV.keys, hm])), hkeys]

theorem upd_touched : ∀ (p : Path) (u cur : KV), u.wf = true →
    touched (.obj u) p = true → get? p (.obj (updNested cur u)) = get? p (.obj u)
  | [], _, _, _, ht => by simp [touched] at ht
  | k :: p', u, cur, hwf, ht => by
    obtain ⟨v0, hl, ht⟩ := touched_cons ht
    simp only [get?, upd_lookup_hit u cur k v0 hwf hl, hl]
    cases v0 with
    | obj vk =>
      have hwfv : vk.wf = true := KV.wf_lookup u k _ hwf hl
      simp only [updValue]
      split
      · exact upd_touched p' vk _ hwfv ht
      · rfl
    | _ => simp [updValue]

/-- wherever the update has a (nested) dictionary below the top level, the current value is a
dictionary too — the update never puts a section where the base has a plain value -/
def DictOnDict (cur u : KV) : Prop :=
  ∀ q uk, q ≠ [] → get? q (.obj u) = some (.obj uk) → ∃ ck, get? q (.obj cur) = some (.obj ck)

theorem DictOnDict.sub {cur u ck vk : KV} {k : String} (h : DictOnDict cur u)
    (hu : u.lookup k = some (.obj vk)) (hc : cur.lookup k = some (.obj ck)) : DictOnDict ck vk := by
  intro q uk hq hg
  cases q with
  | nil => exact absurd rfl hq
  | cons k1 q1 =>
    obtain ⟨ck2, hck2⟩ := h (k :: k1 :: q1) uk (by simp) (by simpa [get?, hu] using hg)
    exact ⟨ck2, by simpa [get?, hc] using hck2⟩

theorem DictOnDict.lookup {cur u vk : KV} {k : String} (h : DictOnDict cur u)
    (hu : u.lookup k = some (.obj vk)) : ∃ ck, cur.lookup k = some (.obj ck) := by
  obtain ⟨ck, hck⟩ := h [k] vk (by simp) (by simp [get?, hu])
  cases hc : cur.lookup k with
  | none => simp [get?, hc] at hck
  | some cv => exact ⟨ck, by simpa [get?, hc] using hck⟩

theorem upd_untouched : ∀ (p : Path) (u cur : KV), u.wf = true → DictOnDict cur u →
    touched (.obj u) p = false →
    (∀ v, get? p (.obj cur) = some v → v.isObj = false →
        get? p (.obj (updNested cur u)) = some v) ∧
    (∀ ck, get? p (.obj cur) = some (.obj ck) →
        ∃ rk, get? p (.obj (updNested cur u)) = some (.obj rk))
  | [], _, _, _, _, _ => by
    refine ⟨fun v hg hv => ?_, fun _ _ => ⟨_, get?_nil _⟩⟩
    rw [get?_nil] at hg
    cases hg
    cases hv
  | k :: p', u, cur, hwf, hdd, ht => by
    simp only [touched] at ht
    cases hl : u.lookup k with
    | none =>
      simp only [get?, upd_lookup_other u cur k ((KV.lookup_none_iff k u).mp hl)]
      exact ⟨fun v hg _ => hg, fun ck hg => ⟨ck, hg⟩⟩
    | some v0 =>
      simp only [hl] at ht
      cases v0 with
      | obj vk =>
        obtain ⟨ck, hck⟩ := hdd.lookup hl
        have hwfv : vk.wf = true := KV.wf_lookup u k _ hwf hl
        simp only [get?, upd_lookup_hit u cur k _ hwf hl, updValue, hck]
        exact upd_untouched p' vk ck hwfv (hdd.sub hl hck) ht
      | _ => simp [touched] at ht


theorem alterD_inv {sm : SM} {d d' : KV} {k : String} {v : J} (h : alterD sm d k v = .ok d') :
    ∃ cur, d.lookup k = some cur ∧ (d' = d ∨ ∃ x, d' = d.setKey k x) := by
  unfold alterD at h
  repeat' split at h
  all_goals first | cases h | skip
  all_goals exact ⟨_, ‹_›, by first | exact .inl rfl | exact .inr ⟨_, rfl⟩⟩

theorem alterD_other {sm : SM} {d d' : KV} {k k' : String} {v : J}
    (h : alterD sm d k v = .ok d') (hk : k' ≠ k) : d'.lookup k' = d.lookup k' := by
  obtain ⟨_, _, hd | ⟨x, hd⟩⟩ := alterD_inv h
  · rw [hd]
  · rw [hd, KV.lookup_setKey_ne x hk]

theorem alterD_keys {sm : SM} {d d' : KV} {k : String} {v : J}
    (h : alterD sm d k v = .ok d') : d'.keys = d.keys := by
  obtain ⟨cur, hl, hd | ⟨x, hd⟩⟩ := alterD_inv h
  · rw [hd]
  · rw [hd, KV.keys_setKey_of_mem k x d (KV.mem_keys_of_lookup hl)]

theorem alterSeq_cons_inv {sm : SM} {d d' : KV} {k : String} {x : J} {xs : List J}
    (h : alterSeq sm d k (x :: xs) = .ok d') :
    ∃ d1, alterD sm d k x = .ok d1 ∧ alterSeq sm d1 k xs = .ok d' := by
  simp only [alterSeq] at h
  split at h
  · exact ⟨_, ‹_›, h⟩
  · cases h

theorem alterVariations_cons_inv {sm : SM} {n i : Nat} {d d' : KV} {k : String} {v : J} {rest : KV}
    (h : alterVariations sm n i d (.cons k v rest) = .ok d') :
    ∃ l d1, v = .list l ∧ alterSeq sm d k (sliceFor n i l) = .ok d1 ∧
      alterVariations sm n i d1 rest = .ok d' := by
  cases v with
  | list l =>
    simp only [alterVariations] at h
    split at h
    next d1 hs => exact ⟨l, d1, rfl, hs, h⟩
    · cases h
  | _ => simp [alterVariations] at h

theorem alterSeq_other {sm : SM} {k k' : String} (hk : k' ≠ k) : ∀ (xs : List J) (d d' : KV),
    alterSeq sm d k xs = .ok d' → d'.lookup k' = d.lookup k'
  | [], d, d', h => by simp only [alterSeq] at h; cases h; rfl
  | x :: xs, d, d', h => by
    obtain ⟨d1, ha, h⟩ := alterSeq_cons_inv h
    rw [alterSeq_other hk xs d1 d' h, alterD_other ha hk]

theorem alterSeq_keys {sm : SM} {k : String} : ∀ (xs : List J) (d d' : KV),
    alterSeq sm d k xs = .ok d' → d'.keys = d.keys
  | [], d, d', h => by simp only [alterSeq] at h; cases h; rfl
  | x :: xs, d, d', h => by
    obtain ⟨d1, ha, h⟩ := alterSeq_cons_inv h
    rw [alterSeq_keys xs d1 d' h, alterD_keys ha]

/-- a whole set of variations leaves every key the description does not name untouched -/
theorem alterVariations_other {sm : SM} {n i : Nat} {k' : String} : ∀ (vars d d' : KV),
    alterVariations sm n i d vars = .ok d' → k' ∉ vars.keys → d'.lookup k' = d.lookup k'
  | .nil, d, d', h, _ => by simp only [alterVariations] at h; cases h; rfl
  | .cons k v rest, d, d', h, hk => by
    simp only [KV.keys, List.mem_cons, not_or] at hk
    obtain ⟨l, d1, _, hs, h⟩ := alterVariations_cons_inv h
    rw [alterVariations_other rest d1 d' h hk.2, alterSeq_other hk.1 _ d d1 hs]

theorem alterVariations_keys {sm : SM} {n i : Nat} : ∀ (vars d d' : KV),
    alterVariations sm n i d vars = .ok d' → d'.keys = d.keys
  | .nil, d, d', h => by simp only [alterVariations] at h; cases h; rfl
  | .cons k v rest, d, d', h => by
    obtain ⟨l, d1, _, hs, h⟩ := alterVariations_cons_inv h
    rw [alterVariations_keys rest d1 d' h, alterSeq_keys _ d d1 hs]


theorem shallowOK_congr {a b : KV} : ∀ (vk : KV), (∀ k, k ∈ vk.keys → a.lookup k = b.lookup k) →
    shallowOK a vk = shallowOK b vk
  | .nil, _ => by simp [shallowOK]
  | .cons k2 v2 rest, h => by
    simp only [shallowOK, h k2 (by simp [KV.keys]),
      shallowOK_congr rest (fun k hk => h k (by simp [KV.keys, hk]))]

theorem shallow_eq_upd : ∀ (vk ck : KV), vk.wf = true → shallowOK ck vk = true →
    updShallow ck vk = updNested ck vk
  | .nil, _, _, _ => by simp [updShallow, updNested]
  | .cons k2 v2 rest, ck, hwf, hs => by
    obtain ⟨hk2, _, hwfr⟩ := KV.wf_cons hwf
    simp only [shallowOK, Bool.and_eq_true, Bool.not_eq_true'] at hs
    have hval : updValue ck k2 v2 = v2 := by
      cases v2 with
      | obj vk2 =>
        simp only [updValue]
        split
        · rename_i ck2 hck2
          simp [J.isObj, hck2] at hs
        · rfl
      | _ => simp [updValue]
    rw [upd_cons, hval]
    simp only [updShallow]
    apply shallow_eq_upd rest _ hwfr
    rw [shallowOK_congr rest (b := ck)]
    · exact hs.2
    · intro k hk
      exact KV.lookup_setKey_ne v2 (fun (e : k = k2) => hk2 (e ▸ hk)) ck

theorem flatD_congr {sm : SM} {a b : KV} {k : String} (h : a.lookup k = b.lookup k) (v : J) :
    flatD sm a k v = flatD sm b k v := by
  unfold flatD
  rw [h]

theorem flatAll_congr {sm : SM} {a b : KV} : ∀ (u : KV), (∀ k, k ∈ u.keys → a.lookup k = b.lookup k) →
    flatAll sm a u = flatAll sm b u
  | .nil, _ => by simp [flatAll]
  | .cons k v rest, h => by
    simp only [flatAll, flatD_congr (h k (by simp [KV.keys])) v,
      flatAll_congr rest (fun k' hk' => h k' (by simp [KV.keys, hk']))]

/-- `flatD` excludes the one case where `dict.update(non-dict)` leaves the holder as it is -/
theorem alterD_leaf {sm : SM} {d d' : KV} {k : String} {v : J} (hv : v.isObj = false)
    (hf : flatD sm d k v = true) (h : alterD sm d k v = .ok d') : d' = d.setKey k v := by
  unfold alterD at h
  unfold flatD at hf
  repeat' split at h
  all_goals first | cases h | skip
  all_goals first | rfl | simp_all [J.isObj]

/-- `ih` is `alterAll_eq_upd` on the written dictionary: passed in, so that `alterAll_eq_upd` is one
structural recursion -/
theorem alterD_obj_eq_upd {vk : KV} {sm : SM} {d d' : KV} {k : String} (hwf : vk.wf = true)
    (ih : ∀ sub ck r, flatAll sub ck vk = true → alterAllD sub ck vk = .ok r → r = updNested ck vk)
    (hf : flatD sm d k (.obj vk) = true) (h : alterD sm d k (.obj vk) = .ok d') :
    d' = d.setKey k (updValue d k (.obj vk)) := by
  simp only [alterD, flatD] at h hf
  repeat' split at h
  all_goals first | cases h | skip
  -- a generic holder (twice), a nested holder, a plain dictionary updated one level deep, and an
  -- entry that is no dictionary
  · rw [updValue_obj_obj ‹_›]
  · rw [updValue_obj_other ‹_› ‹_›]
  · simp only [*] at hf
    have hr := ih _ _ _ hf ‹_›
    rw [updValue_obj_obj ‹_›, hr]
  · simp only [*] at hf
    rw [updValue_obj_obj ‹_›, shallow_eq_upd vk _ hwf hf]
  · rw [updValue_obj_other ‹_› ‹_›]

theorem alterAll_eq_upd : ∀ (u : KV) (sm : SM) (d r : KV), u.wf = true →
    flatAll sm d u = true → alterAllD sm d u = .ok r → r = updNested d u
  | .nil, _, d, r, _, _, h => by
    simp only [alterAllD] at h
    cases h
    simp [updNested]
  | .cons k v rest, sm, d, r, hwf, hf, h => by
    obtain ⟨hk, hvwf, hwfr⟩ := KV.wf_cons hwf
    simp only [flatAll, Bool.and_eq_true] at hf
    simp only [alterAllD] at h
    cases ha : alterD sm d k v with
    | error e => simp [ha] at h
    | ok d1 =>
      simp only [ha] at h
      have hd1 : d1 = d.setKey k (updValue d k v) := by
        cases v with
        | obj vk =>
          exact alterD_obj_eq_upd hvwf (fun sub ck r => alterAll_eq_upd vk sub ck r hvwf) hf.1 ha
        | _ => exact alterD_leaf rfl hf.1 ha
      have hflat : flatAll sm d1 rest = true := by
        rw [flatAll_congr rest (b := d)]
        · exact hf.2
        · intro k' hk'
          exact alterD_other ha (fun e => hk (e ▸ hk'))
      rw [alterAll_eq_upd rest sm d1 r hwfr hflat h, upd_cons, hd1]

theorem alterD_eq_upd (v : J) (sm : SM) (d d' : KV) (k : String) (hwf : v.wf = true)
    (hf : flatD sm d k v = true) (h : alterD sm d k v = .ok d') :
    d' = d.setKey k (updValue d k v) := by
  cases v with
  | obj vk => exact alterD_obj_eq_upd hwf (fun sub ck r => alterAll_eq_upd vk sub ck r hwf) hf h
  | _ => exact alterD_leaf rfl hf h


/-- the dictionary `{k1: {k2: ... v}}` -/
def chain : Path → J → J
  | [], v => v
  | k :: p, v => .obj (.cons k (chain p v) .nil)

/-- the list-valued leaves of a (nested) description, in order, with their key paths -/
def listLeaves : KV → List (Path × JL)
  | .nil => []
  | .cons k v rest =>
    (match v with
      | .obj vk => (listLeaves vk).map (fun pl => (k :: pl.1, pl.2))
      | .list l => [([k], l)]
      | _ => []) ++ listLeaves rest

/-- `unpack_nested_parameter_variations(description, i)` is, leaf by leaf and in order, the chain
dictionary holding the `i`-th listed value -/
theorem unpackNested_spec (i : Nat) : ∀ (vk : KV) (l : List J), unpackNested i vk = .ok l →
    (listLeaves vk).map (fun pl => (pl.2.get? i).map (chain pl.1)) = l.map some
  | .nil, l, h => by
    simp only [unpackNested] at h
    cases h
    simp [listLeaves]
  | .cons k (.obj vk) rest, l, h => by
    simp only [unpackNested] at h
    split at h
    · cases h
    next subs hs =>
    split at h
    case h_2 => cases h
    next ts ht =>
    cases h
    have ih1 := unpackNested_spec i vk subs hs
    have ih2 := unpackNested_spec i rest ts ht
    -- a chain below `k` is `{k: chain}`
    have hc : ∀ (q : Path) (o : Option J),
        o.map (chain (k :: q)) = (o.map (chain q)).map fun s => J.obj (.cons k s .nil) := by
      intro q o; cases o <;> rfl
    simp only [listLeaves, List.map_append, List.map_map, ih2, Function.comp_def, hc]
    congr 1
    simpa [List.map_map, Function.comp_def] using
      congrArg (List.map (Option.map fun s => J.obj (.cons k s .nil))) ih1
  | .cons k (.list ll) rest, l, h => by
    simp only [unpackNested] at h
    split at h
    · cases h
    next x hx =>
    split at h
    case h_2 => cases h
    next ts ht =>
    cases h
    simp [listLeaves, chain, hx, unpackNested_spec i rest ts ht]
  | .cons k .null rest, l, h | .cons k (.bool _) rest, l, h | .cons k (.int _) rest, l, h
  | .cons k (.float _ _) rest, l, h | .cons k (.str _) rest, l, h => by
    simp only [unpackNested] at h
    simpa [listLeaves] using unpackNested_spec i rest l h

theorem unpackNested_length (i : Nat) (vk : KV) (l : List J) (h : unpackNested i vk = .ok l) :
    l.length = (listLeaves vk).length := by
  have := congrArg List.length (unpackNested_spec i vk l h)
  simpa using this.symm

theorem unpackRange_succ_inv {vk : KV} {cnt s : Nat} {L : List J}
    (h : unpackRange vk (cnt + 1) s = .ok L) :
    ∃ a b, unpackNested s vk = .ok a ∧ unpackRange vk cnt (s + 1) = .ok b ∧ L = a ++ b := by
  simp only [unpackRange] at h
  split at h
  · cases h
  next a ha =>
    split at h
    next b hb => cases h; exact ⟨a, b, ha, hb, rfl⟩
    · cases h

theorem unpackRange_blocks (vk : KV) : ∀ (cnt s : Nat) (L : List J),
    unpackRange vk cnt s = .ok L →
    L.length = cnt * (listLeaves vk).length ∧
    ∀ j, j < cnt → ∃ b, unpackNested (s + j) vk = .ok b ∧
      (L.drop (j * (listLeaves vk).length)).take (listLeaves vk).length = b
  | 0, s, L, h => by
    simp only [unpackRange] at h
    cases h
    exact ⟨by simp, fun j hj => absurd hj (Nat.not_lt_zero j)⟩
  | cnt + 1, s, L, h => by
    obtain ⟨a, b, ha, hb, rfl⟩ := unpackRange_succ_inv h
    obtain ⟨ihl, ihb⟩ := unpackRange_blocks vk cnt (s + 1) b hb
    have hal := unpackNested_length s vk a ha
    refine ⟨by simp [hal, ihl, Nat.add_mul, Nat.add_comm], ?_⟩
    intro j hj
    cases j with
    | zero =>
      refine ⟨a, by simpa using ha, ?_⟩
      simp only [Nat.zero_mul, List.drop_zero]
      rw [← hal]
      exact List.take_left
    | succ j =>
      obtain ⟨bj, hbj, hslice⟩ := ihb j (by omega)
      refine ⟨bj, Nat.add_right_comm s 1 j ▸ hbj, ?_⟩
      have : (j + 1) * (listLeaves vk).length = a.length + j * (listLeaves vk).length := by
        rw [hal, Nat.add_mul]; omega
      rw [this, List.drop_length_add_append]
      exact hslice

theorem JL.toList_ofList : ∀ (l : List J), (JL.ofList l).toList = l
  | [] => rfl
  | x :: l => by simp [JL.ofList, JL.toList, JL.toList_ofList l]

theorem JL.length_eq_toList : ∀ (l : JL), l.length = l.toList.length
  | .nil => rfl
  | .cons _ t => by simp [JL.length, JL.toList, JL.length_eq_toList t]

theorem slice_block (vk : KV) (n i : Nat) (L : List J) (h : unpackRange vk n 0 = .ok L)
    (hi : i < n) :
    ∃ b, unpackNested i vk = .ok b ∧ sliceFor n i (JL.ofList L) = b := by
  obtain ⟨hlen, hblocks⟩ := unpackRange_blocks vk n 0 L h
  obtain ⟨b, hb, hslice⟩ := hblocks i hi
  refine ⟨b, by simpa using hb, ?_⟩
  have hn : 0 < n := by omega
  have hu : (JL.ofList L).length / n = (listLeaves vk).length := by
    rw [JL.length_eq_toList, JL.toList_ofList, hlen, Nat.mul_comm, Nat.mul_div_cancel _ hn]
  simp only [sliceFor, hu, JL.toList_ofList]
  exact hslice

theorem JL.drop_take_one : ∀ (l : JL) (i : Nat),
    (l.toList.drop i).take 1 = (match l.get? i with | some x => [x] | none => [])
  | .nil, i => by simp [JL.toList, JL.get?]
  | .cons h t, 0 => by simp [JL.toList, JL.get?]
  | .cons h t, i + 1 => by
    simp only [JL.toList, List.drop_succ_cons, JL.get?]
    exact JL.drop_take_one t i

theorem slice_direct (n i : Nat) (l : JL) (hlen : l.length = n) (hi : i < n) :
    sliceFor n i l = (match l.get? i with | some x => [x] | none => []) := by
  have hn : 0 < n := by omega
  have hu : l.length / n = 1 := by rw [hlen, Nat.div_self hn]
  simp only [sliceFor, hu, Nat.mul_one]
  exact JL.drop_take_one l i


theorem dodB_lookup {cur : KV} : ∀ (u : KV) (k : String) (v : J), dodB cur u = true →
    u.lookup k = some v → ∀ vk, v = .obj vk →
    ∃ ck, cur.lookup k = some (.obj ck) ∧ dodB ck vk = true := by
  refine KV.forall_lookup (S := fun u => dodB cur u = true) ?_
  intro k0 v0 rest h
  refine ⟨fun vk hv => ?_, by cases v0 <;> simp_all [dodB]⟩
  subst hv
  simp only [dodB, Bool.and_eq_true] at h
  split at h
  · exact ⟨_, ‹_›, h.1⟩
  · simp at h

theorem dodB_sound : ∀ (q : Path) (cur u uk : KV), dodB cur u = true → q ≠ [] →
    get? q (.obj u) = some (.obj uk) → ∃ ck, get? q (.obj cur) = some (.obj ck)
  | [], _, _, _, _, hq, _ => absurd rfl hq
  | k :: q', cur, u, uk, h, _, hg => by
    obtain ⟨_, v0, hj, hl, hg⟩ := get?_cons_some hg
    cases hj
    cases q' with
    | nil =>
      rw [get?_nil] at hg
      cases hg
      obtain ⟨ck, hck, _⟩ := dodB_lookup u k _ h hl uk rfl
      exact ⟨ck, by simp [get?, hck]⟩
    | cons k1 q1 =>
      obtain ⟨vk, _, rfl, _, _⟩ := get?_cons_some hg
      obtain ⟨ck, hck, hd⟩ := dodB_lookup u k _ h hl vk rfl
      obtain ⟨ck2, hck2⟩ := dodB_sound (k1 :: q1) ck vk uk hd (by simp) hg
      exact ⟨ck2, by simpa [get?, hck] using hck2⟩

theorem dod_of_dodB {cur u : KV} (h : dodB cur u = true) : DictOnDict cur u :=
  fun q uk hq hg => dodB_sound q cur u uk h hq hg

theorem single_wf {k : String} {x : J} (h : x.wf = true) : (single k x).wf = true := by
  simp [single, KV.wf, KV.has, KV.lookup, h]

theorem upd_single (d : KV) (k : String) (x : J) :
    updNested d (single k x) = d.setKey k (updValue d k x) := by
  simp [single, upd_cons, updNested]

theorem alterSeq_step {sm : SM} {k : String} {d d' : KV} {x : J} {xs : List J}
    (hok : seqOK sm k d (x :: xs) = true) (h : alterSeq sm d k (x :: xs) = .ok d') :
    x.wf = true ∧ DictOnDict d (single k x) ∧ seqOK sm k (updNested d (single k x)) xs = true ∧
      alterSeq sm (updNested d (single k x)) k xs = .ok d' := by
  obtain ⟨d1, ha, h⟩ := alterSeq_cons_inv h
  simp only [seqOK, ha, Bool.and_eq_true] at hok
  obtain ⟨⟨⟨hxwf, hflat⟩, hdod⟩, hrest⟩ := hok
  rw [upd_single, ← alterD_eq_upd x sm d d1 k hxwf hflat ha]
  exact ⟨hxwf, dod_of_dodB hdod, hrest, h⟩

theorem alterSeq_frame {sm : SM} {k : String} : ∀ (xs : List J) (d d' : KV) (p : Path) (v : J),
    seqOK sm k d xs = true → alterSeq sm d k xs = .ok d' →
    (∀ x, x ∈ xs → touched (.obj (single k x)) p = false) →
    get? p (.obj d) = some v → v.isObj = false → get? p (.obj d') = some v
  | [], d, d', _, _, _, h, _, hg, _ => by
    simp only [alterSeq] at h
    cases h; exact hg
  | x :: xs, d, d', p, v, hok, h, ht, hg, hv => by
    obtain ⟨hxwf, hdod, hrest, h⟩ := alterSeq_step hok h
    exact alterSeq_frame xs _ d' p v hrest h (fun y hy => ht y (by simp [hy]))
      ((upd_untouched p (single k x) d (single_wf hxwf) hdod (ht x (by simp))).1 v hg hv) hv

theorem alterSeq_varied {sm : SM} {k : String} : ∀ (pre post : List J) (x : J) (d d' : KV)
    (p : Path) (v : J), seqOK sm k d (pre ++ x :: post) = true →
    alterSeq sm d k (pre ++ x :: post) = .ok d' →
    touched (.obj (single k x)) p = true →
    (∀ y, y ∈ post → touched (.obj (single k y)) p = false) →
    get? p (.obj (single k x)) = some v → v.isObj = false → get? p (.obj d') = some v
  | [], post, x, d, d', p, v, hok, h, htx, hpost, hg, hv => by
    obtain ⟨hxwf, _, hrest, h⟩ := alterSeq_step hok h
    exact alterSeq_frame post _ d' p v hrest h hpost
      (by rw [upd_touched p (single k x) d (single_wf hxwf) htx, hg]) hv
  | y :: pre, post, x, d, d', p, v, hok, h, htx, hpost, hg, hv => by
    obtain ⟨_, _, hrest, h⟩ := alterSeq_step hok h
    exact alterSeq_varied pre post x _ d' p v hrest h htx hpost hg hv

theorem touched_single {k : String} {x : J} : ∀ (p : Path),
    touched (.obj (single k x)) p = true → ∃ q, p = k :: q
  | [], h => by simp [touched] at h
  | k' :: q, h => by
    by_cases hk : k = k'
    · exact ⟨q, by rw [hk]⟩
    · simp [touched, single, KV.lookup, hk] at h

theorem alterVariations_step {sm : SM} {n i : Nat} {d d' : KV} {k : String} {v : J} {rest : KV}
    (hok : varsOK sm n i d (.cons k v rest) = true)
    (h : alterVariations sm n i d (.cons k v rest) = .ok d') :
    ∃ l d1, v = .list l ∧ seqOK sm k d (sliceFor n i l) = true ∧
      alterSeq sm d k (sliceFor n i l) = .ok d1 ∧ varsOK sm n i d1 rest = true ∧
      alterVariations sm n i d1 rest = .ok d' := by
  obtain ⟨l, d1, rfl, hs, h⟩ := alterVariations_cons_inv h
  simp only [varsOK, hs, Bool.and_eq_true] at hok
  exact ⟨l, d1, rfl, hok.1, hs, hok.2, h⟩

theorem alterVariations_frame {sm : SM} {n i : Nat} : ∀ (vars d d' : KV) (p : Path) (v : J),
    vars.wf = true → varsOK sm n i d vars = true → alterVariations sm n i d vars = .ok d' →
    (∀ k l x, vars.lookup k = some (.list l) → x ∈ sliceFor n i l →
        touched (.obj (single k x)) p = false) →
    get? p (.obj d) = some v → v.isObj = false → get? p (.obj d') = some v
  | .nil, d, d', _, _, _, _, h, _, hg, _ => by
    simp only [alterVariations] at h
    cases h; exact hg
  | .cons k val rest, d, d', p, v, hwf, hok, h, ht, hg, hv => by
    obtain ⟨hk, _, hwfr⟩ := KV.wf_cons hwf
    obtain ⟨l, d1, rfl, hsok, hs, hok, h⟩ := alterVariations_step hok h
    have hstep := alterSeq_frame (sliceFor n i l) d d1 p v hsok hs
      (fun x hx => ht k l x (by simp [KV.lookup]) hx) hg hv
    apply alterVariations_frame rest d1 d' p v hwfr hok h _ hstep hv
    intro k' l' x hl hx
    apply ht k' l' x _ hx
    have hne : ¬ k = k' := fun e => hk (e ▸ KV.mem_keys_of_lookup hl)
    simpa [KV.lookup, hne] using hl

theorem alterVariations_varied {sm : SM} {n i : Nat} : ∀ (vars d d' : KV) (k : String) (l : JL)
    (pre post : List J) (x : J) (p : Path) (v : J),
    vars.wf = true → varsOK sm n i d vars = true → alterVariations sm n i d vars = .ok d' →
    vars.lookup k = some (.list l) → sliceFor n i l = pre ++ x :: post →
    touched (.obj (single k x)) p = true →
    (∀ y, y ∈ post → touched (.obj (single k y)) p = false) →
    get? p (.obj (single k x)) = some v → v.isObj = false → get? p (.obj d') = some v
  | .nil, _, _, _, _, _, _, _, _, _, _, _, _, hl, _, _, _, _, _ => by simp [KV.lookup] at hl
  | .cons k0 val rest, d, d', k, l, pre, post, x, p, v, hwf, hok, h, hl, hsl, htx, hpost, hg, hv => by
    obtain ⟨hk0, _, hwfr⟩ := KV.wf_cons hwf
    obtain ⟨l0, d1, rfl, hsok, hs, hok1, hr⟩ := alterVariations_step hok h
    by_cases hk : k0 = k
    · subst hk
      simp only [KV.lookup, if_true] at hl
      cases hl
      rw [hsl] at hs hsok
      have hstep := alterSeq_varied pre post x d d1 p v hsok hs htx hpost hg hv
      obtain ⟨q, hq⟩ := touched_single p htx
      apply alterVariations_frame rest d1 d' p v hwfr hok1 hr _ hstep hv
      intro k' l' y hl' _
      have hne : ¬ k' = k0 := fun e => hk0 (e ▸ KV.mem_keys_of_lookup hl')
      simp [hq, touched, single, KV.lookup, hne]
    · simp only [KV.lookup, hk, if_false] at hl
      exact alterVariations_varied rest d1 d' k l pre post x p v hwfr hok1 hr hl hsl htx hpost hg hv

theorem rename_inj {name : String} {i j : Nat} (h : rename name i = rename name j) : i = j := by
  simp only [rename, String.append_assoc] at h
  have h1 := (String.append_right_inj name).mp h
  have h2 := (String.append_right_inj "_").mp h1
  exact Nat.repr_injective h2

theorem KV.lookup_erase_ne {k k' : String} (h : k' ≠ k) : ∀ kvs : KV,
    (kvs.erase k).lookup k' = kvs.lookup k'
  | .nil => by simp [KV.erase]
  | .cons k0 v t => by
    by_cases h0 : k0 = k
    · subst h0
      simp [KV.erase, KV.lookup, Ne.symm h]
    · by_cases h1 : k0 = k'
      · subst h1
        simp [KV.erase, KV.lookup, h0]
      · simp [KV.erase, KV.lookup, h0, h1, KV.lookup_erase_ne h t]

theorem removeAll_other : ∀ (names : List String) (acc acc' : KV × SML) (k : String),
    removeAll names acc = .ok acc' → k ∉ names → acc'.1.lookup k = acc.1.lookup k
  | [], acc, acc', _, h, _ => by simp only [removeAll] at h; cases h; rfl
  | nm :: rest, acc, acc', k, h, hk => by
    simp only [List.mem_cons, not_or] at hk
    simp only [removeAll] at h
    split at h
    · rw [removeAll_other rest _ acc' k h hk.2]
      exact KV.lookup_erase_ne hk.1 acc.1
    · cases h


theorem varyVW_spec (maps : Maps) (base : PH) (n : Nat) (vars : KV) : ∀ (cnt off : Nat) (l : List PH),
    varyVW maps base n vars cnt off = .ok l →
    l.length = cnt ∧ ∀ j s, l[j]? = some s →
      ∃ vw', alterVariations (.high maps.vw) n (off + j) base.vw vars = .ok vw' ∧
        s = { base with vw := vw' }
  | 0, off, l, h => by
    simp only [varyVW] at h
    cases h
    exact ⟨rfl, by simp⟩
  | cnt + 1, off, l, h => by
    simp only [varyVW] at h
    split at h
    · cases h
    next vw' hvw =>
    split at h
    · cases h
    next rest hrest =>
    cases h
    obtain ⟨hlen, hspec⟩ := varyVW_spec maps base n vars cnt (off + 1) rest hrest
    refine ⟨by simp [hlen], ?_⟩
    intro j s hj
    cases j with
    | zero =>
      simp only [List.getElem?_cons_zero, Option.some.injEq] at hj
      exact ⟨vw', hvw, hj.symm⟩
    | succ j =>
      simp only [List.getElem?_cons_succ] at hj
      obtain ⟨vw2, h1, h2⟩ := hspec j s hj
      exact ⟨vw2, Nat.add_right_comm off 1 j ▸ h1, h2⟩

theorem finishSets_cons_inv {p : PH} {ps r : List PH} {off : Nat}
    (h : finishSets (p :: ps) off = .ok r) :
    ∃ sim' rest, alterSimInfo p.sim off = .ok sim' ∧ finishSets ps (off + 1) = .ok rest ∧
      r = { p with sim := sim' } :: rest := by
  simp only [finishSets] at h
  split at h
  · cases h
  next sim' hsim =>
    split at h
    next rest hrest => cases h; exact ⟨sim', rest, hsim, hrest, rfl⟩
    · cases h

theorem finishSets_spec : ∀ (l : List PH) (off : Nat) (r : List PH), finishSets l off = .ok r →
    r.length = l.length ∧ ∀ j s', r[j]? = some s' →
      ∃ s sim', l[j]? = some s ∧ alterSimInfo s.sim (off + j) = .ok sim' ∧
        s' = { s with sim := sim' }
  | [], off, r, h => by
    simp only [finishSets] at h
    cases h
    exact ⟨rfl, by simp⟩
  | p :: ps, off, r, h => by
    obtain ⟨sim', rest, hsim, hrest, rfl⟩ := finishSets_cons_inv h
    obtain ⟨hlen, hspec⟩ := finishSets_spec ps (off + 1) rest hrest
    refine ⟨by simp [hlen], ?_⟩
    intro j s' hj
    cases j with
    | zero =>
      simp only [List.getElem?_cons_zero, Option.some.injEq] at hj
      exact ⟨p, sim', rfl, hsim, hj.symm⟩
    | succ j =>
      simp only [List.getElem?_cons_succ] at hj
      obtain ⟨s, sim2, h1, h2, h3⟩ := hspec j s' hj
      exact ⟨s, sim2, by simpa using h1, Nat.add_right_comm off 1 j ▸ h2, h3⟩

theorem alterSimInfo_spec {sim sim' : KV} {i : Nat} (h : alterSimInfo sim i = .ok sim') :
    ∃ v, sim.lookup "output_directory" = some v ∧
      sim'.lookup "output_directory" = some (.str (pyStr v ++ "/" ++ toString i)) ∧
      sim'.keys = sim.keys ∧
      ∀ k, k ≠ "output_directory" → sim'.lookup k = sim.lookup k := by
  simp only [alterSimInfo] at h
  split at h
  · cases h
    exact ⟨_, ‹_›, KV.lookup_setKey_same _ _ _,
      KV.keys_setKey_of_mem _ _ _ (KV.mem_keys_of_lookup ‹_›),
      fun k hk => KV.lookup_setKey_ne _ hk _⟩
  · cases h

theorem varyMethodsProgram_inv {base : PH} {sens : String} {n i : Nat} {vars : KV}
    (hne : vars ≠ .nil) {r : Option (String × J × SM)}
    (h : varyMethodsProgram base sens n i vars = .ok r) :
    ∃ p sm, r = some (rename sens i, p, sm) := by
  cases vars with
  | nil => exact absurd rfl hne
  | cons k v t =>
    simp only [varyMethodsProgram] at h
    split at h
    case h_2 => cases h
    split at h
    · cases h
    split at h
    · cases h
    split at h
    case h_2 => cases h
    split at h
    · cases h
    cases h
    exact ⟨_, _, rfl⟩

theorem varyMethodsOuter_succ_inv {base : PH} {sens : String} {n cnt off : Nat} {vars : KV}
    (hne : vars ≠ .nil) {acc acc' : KV × SML}
    (h : varyMethodsOuter base sens n vars (cnt + 1) off acc = .ok acc') :
    ∃ p sm, varyMethodsOuter base sens n vars cnt (off + 1)
      (acc.1.setKey (rename sens off) p, acc.2.setKey (rename sens off) sm) = .ok acc' := by
  simp only [varyMethodsOuter] at h
  split at h
  · cases h
  · obtain ⟨_, _, hr⟩ := varyMethodsProgram_inv hne ‹_›
    cases hr
  · obtain ⟨p, sm, hr⟩ := varyMethodsProgram_inv hne ‹_›
    cases hr
    exact ⟨_, _, h⟩

theorem varyMethodsOuter_present (base : PH) (sens : String) (n : Nat) (vars : KV)
    (hne : vars ≠ .nil) : ∀ (cnt off : Nat) (acc acc' : KV × SML),
    varyMethodsOuter base sens n vars cnt off acc = .ok acc' →
    (∀ i, off ≤ i → i < off + cnt → (acc'.1.lookup (rename sens i)).isSome = true) ∧
    (∀ k, (∀ i, off ≤ i → i < off + cnt → k ≠ rename sens i) → acc'.1.lookup k = acc.1.lookup k)
  | 0, off, acc, acc', h => by
    simp only [varyMethodsOuter] at h
    cases h
    exact ⟨fun i h1 h2 => by omega, fun _ _ => rfl⟩
  | cnt + 1, off, acc, acc', h => by
    obtain ⟨p, sm, h⟩ := varyMethodsOuter_succ_inv hne h
    obtain ⟨ih1, ih2⟩ := varyMethodsOuter_present base sens n vars hne cnt (off + 1) _ acc' h
    constructor
    · intro i h1 h2
      by_cases hi : i = off
      · subst hi
        rw [ih2 (rename sens i) (fun j hj1 _ e => by have := rename_inj e; omega)]
        simp [KV.lookup_setKey_same]
      · exact ih1 i (by omega) (by omega)
    · intro k hk
      rw [ih2 k (fun j hj1 hj2 => hk j (by omega) (by omega))]
      exact KV.lookup_setKey_ne _ (hk off (by omega) (by omega)) _


theorem finishMethods_spec {base : PH} {acc : KV × SML} {s : PH}
    (h : finishMethods base acc = .ok s) :
    s.vw = base.vw ∧ s.out = base.out ∧ s.sim = base.sim ∧ s.baseline = base.baseline ∧
    ∃ bp, base.programs.lookup base.baseline = some bp ∧
      s.programs.lookup base.baseline = some bp ∧
      ∀ k, k ∉ base.programs.keys → s.programs.lookup k = acc.1.lookup k := by
  simp only [finishMethods] at h
  split at h
  · cases h
  next acc' hr =>
  split at h
  case h_2 => cases h
  next bp bm hb hm =>
  cases h
  refine ⟨rfl, rfl, rfl, rfl, bp, hb, KV.lookup_setKey_same _ _ _, ?_⟩
  intro k hk
  have hne : k ≠ base.baseline := fun e => hk (e ▸ KV.mem_keys_of_lookup hb)
  simp only
  rw [KV.lookup_setKey_ne _ hne]
  exact removeAll_other base.programs.keys acc acc' k hr hk

theorem varyProgramsSet_inv {base : PH} {n : Nat} {vars : KV} {s : PH}
    (h : varyProgramsSet base n vars = .ok s) :
    ∃ bp bm acc, base.programs.lookup base.baseline = some bp ∧
      base.progMaps.lookup base.baseline = some bm ∧
      varyProgramsOuter base n vars n 0
        (KV.cons base.baseline bp .nil, SML.cons base.baseline bm .nil) = .ok acc ∧
      s = { base with programs := acc.1, progMaps := acc.2 } := by
  simp only [varyProgramsSet] at h
  split at h
  case h_2 => cases h
  next bp bm hbp hbm =>
  split at h
  · cases h
  next acc hacc =>
  cases h
  exact ⟨bp, bm, acc, hbp, hbm, hacc, rfl⟩

theorem finishSets_single {s0 : PH} {sets : List PH} (h : finishSets [s0] 0 = .ok sets) :
    ∃ sim', alterSimInfo s0.sim 0 = .ok sim' ∧ sets = [{ s0 with sim := sim' }] := by
  simp only [finishSets] at h
  split at h
  · cases h
  · cases h
    exact ⟨_, ‹_›, rfl⟩

theorem vary_programs {maps : Maps} {base : PH} {sens : Option String} {n : Nat} {vars : KV}
    {sets : List PH} (h : vary maps base sens "programs" n vars = .ok sets) :
    ∃ s0 sim', varyProgramsSet base n vars = .ok s0 ∧ alterSimInfo s0.sim 0 = .ok sim' ∧
      sets = [{ s0 with sim := sim' }] := by
  have hne : ¬ ("programs" = "virtual_world") := by decide
  simp only [vary, varySets, hne, if_false, if_true] at h
  cases hp : varyProgramsSet base n vars with
  | error e => simp [hp] at h
  | ok s0 =>
    obtain ⟨sim', h1, h2⟩ := finishSets_single (by simpa [hp] using h)
    exact ⟨s0, sim', rfl, h1, h2⟩

theorem vary_methods {maps : Maps} {base : PH} {sens : Option String} {n : Nat} {vars : KV}
    {sets : List PH} (h : vary maps base sens "methods" n vars = .ok sets) :
    ∃ s0 sim', varyMethodsSet base sens n vars = .ok s0 ∧ alterSimInfo s0.sim 0 = .ok sim' ∧
      sets = [{ s0 with sim := sim' }] := by
  have hne1 : ¬ ("methods" = "virtual_world") := by decide
  have hne2 : ¬ ("methods" = "programs") := by decide
  simp only [vary, varySets, hne1, hne2, if_false, if_true] at h
  cases hp : varyMethodsSet base sens n vars with
  | error e => simp [hp] at h
  | ok s0 =>
    obtain ⟨sim', h1, h2⟩ := finishSets_single (by simpa [hp] using h)
    exact ⟨s0, sim', rfl, h1, h2⟩

theorem varyMethodsSet_inv {base : PH} {sens : Option String} {n : Nat} {vars : KV} {s : PH}
    (h : varyMethodsSet base sens n vars = .ok s) :
    ∃ acc, finishMethods base acc = .ok s ∧ ∀ sp, sens = some sp →
      varyMethodsOuter base sp n vars n 0 (base.programs, base.progMaps) = .ok acc := by
  cases sens with
  | none =>
    simp only [varyMethodsSet] at h
    split at h
    · exact ⟨_, h, fun _ hs => nomatch hs⟩
    · cases h
  | some sp =>
    simp only [varyMethodsSet] at h
    cases ho : varyMethodsOuter base sp n vars n 0 (base.programs, base.progMaps) with
    | error e => simp [ho] at h
    | ok acc =>
      rw [ho] at h
      exact ⟨acc, h, fun _ hs => by cases hs; exact ho⟩


theorem varyProgram_inv {base : PH} {n i : Nat} {pname : String} {pvars : J}
    {nm : String} {p : J} {sm : SM} (h : varyProgram base n i pname pvars = .ok (nm, p, sm)) :
    ∃ pk vk pk1 pk2, base.programs.lookup pname = some (.obj pk) ∧
      base.progMaps.lookup pname = some sm ∧ pvars = .obj vk ∧
      alterD sm pk "program_name" (.str (rename pname i)) = .ok pk1 ∧
      alterVariations sm n i pk1 vk = .ok pk2 ∧ nm = rename pname i ∧ p = .obj pk2 := by
  simp only [varyProgram] at h
  split at h
  case h_2 => cases h
  next pk sm' hp hm =>
  split at h
  · cases h
  next pk1 h1 =>
  split at h
  case h_2 => cases h
  next vk =>
  split at h
  case h_2 => cases h
  next pk2 h2 =>
  cases h
  exact ⟨pk, vk, pk1, pk2, hp, hm, rfl, h1, h2, rfl, rfl⟩

theorem varyProgram_name {base : PH} {n i : Nat} {pname : String} {pvars : J}
    {nm : String} {p : J} {sm : SM} (h : varyProgram base n i pname pvars = .ok (nm, p, sm)) :
    nm = rename pname i := by
  obtain ⟨_, _, _, _, _, _, _, _, _, hnm, _⟩ := varyProgram_inv h
  exact hnm

theorem varyProgramsInner_cons_inv {base : PH} {n i : Nat} {acc acc' : KV × SML} {pname : String}
    {pvars : J} {rest : KV} (h : varyProgramsInner base n i acc (.cons pname pvars rest) = .ok acc') :
    ∃ p sm, varyProgram base n i pname pvars = .ok (rename pname i, p, sm) ∧
      varyProgramsInner base n i
        (acc.1.setKey (rename pname i) p, acc.2.setKey (rename pname i) sm) rest = .ok acc' := by
  simp only [varyProgramsInner] at h
  split at h
  · cases h
  · rename_i nm p sm hp
    cases varyProgram_name hp
    exact ⟨p, sm, hp, h⟩

theorem varyProgramsOuter_succ_inv {base : PH} {n cnt off : Nat} {vars : KV} {acc acc' : KV × SML}
    (h : varyProgramsOuter base n vars (cnt + 1) off acc = .ok acc') :
    ∃ acc1, varyProgramsInner base n off acc vars = .ok acc1 ∧
      varyProgramsOuter base n vars cnt (off + 1) acc1 = .ok acc' := by
  simp only [varyProgramsOuter] at h
  split at h
  · cases h
  · exact ⟨_, ‹_›, h⟩

theorem varyProgramsInner_other (base : PH) (n i : Nat) (b : String) : ∀ (vars : KV) (acc acc' : KV × SML),
    varyProgramsInner base n i acc vars = .ok acc' →
    (∀ pname, pname ∈ vars.keys → rename pname i ≠ b) → acc'.1.lookup b = acc.1.lookup b
  | .nil, acc, acc', h, _ => by simp only [varyProgramsInner] at h; cases h; rfl
  | .cons pname pvars rest, acc, acc', h, hb => by
    obtain ⟨p, sm, hp, h⟩ := varyProgramsInner_cons_inv h
    rw [varyProgramsInner_other base n i b rest _ acc' h (fun q hq => hb q (by simp [KV.keys, hq]))]
    exact KV.lookup_setKey_ne _ (Ne.symm (hb pname (by simp [KV.keys]))) _

theorem varyProgramsOuter_other (base : PH) (n : Nat) (vars : KV) (b : String) :
    ∀ (cnt off : Nat) (acc acc' : KV × SML),
    varyProgramsOuter base n vars cnt off acc = .ok acc' →
    (∀ pname i, pname ∈ vars.keys → off ≤ i → i < off + cnt → rename pname i ≠ b) →
    acc'.1.lookup b = acc.1.lookup b
  | 0, off, acc, acc', h, _ => by simp only [varyProgramsOuter] at h; cases h; rfl
  | cnt + 1, off, acc, acc', h, hb => by
    obtain ⟨acc1, hi, h⟩ := varyProgramsOuter_succ_inv h
    rw [varyProgramsOuter_other base n vars b cnt (off + 1) acc1 acc' h
      (fun q j hq h1 h2 => hb q j hq (by omega) (by omega))]
    exact varyProgramsInner_other base n off b vars acc acc1 hi
      (fun q hq => hb q off hq (Nat.le_refl _) (by omega))


theorem touched_chain_prefix : ∀ (q' : Path) (v' : J) (q : Path),
    touched (chain q' v') q = true → q' <+: q
  | [], _, q, _ => List.nil_prefix
  | k' :: q'', v', [], h => by simp [chain, touched] at h
  | k' :: q'', v', k :: qs, h => by
    by_cases hk : k' = k
    · subst hk
      simp only [chain, touched, KV.lookup, if_true] at h
      have := touched_chain_prefix q'' v' qs h
      exact List.cons_prefix_cons.mpr ⟨rfl, this⟩
    · simp [chain, touched, KV.lookup, hk] at h

theorem touched_chain_self : ∀ (q : Path) (v : J), v.isObj = false → touched (chain q v) q = true
  | [], v, hv => touched_leaf hv []
  | k :: q, v, hv => by
    simp [chain, touched, KV.lookup, touched_chain_self q v hv]

theorem get?_chain : ∀ (q : Path) (v : J), get? q (chain q v) = some v
  | [], v => get?_nil v
  | k :: q, v => by simp [chain, get?, KV.lookup, get?_chain q v]

def Incomparable (a b : Path) : Prop := ¬ a <+: b ∧ ¬ b <+: a

theorem listLeaves_cons (k : String) (v : J) (rest : KV) :
    listLeaves (.cons k v rest) =
      (match v with
        | .obj vk => (listLeaves vk).map (fun pl => (k :: pl.1, pl.2))
        | .list l => [([k], l)]
        | _ => []) ++ listLeaves rest := by
  cases v <;> simp [listLeaves]

theorem listLeaves_head : ∀ (vk : KV) (q : Path) (l : JL), (q, l) ∈ listLeaves vk →
    ∃ k q', q = k :: q' ∧ k ∈ vk.keys
  | .nil, _, _, h => by simp [listLeaves] at h
  | .cons k v rest, q, l, h => by
    rw [listLeaves_cons, List.mem_append] at h
    rcases h with h | h
    · cases v with
      | obj vk' =>
        simp only [List.mem_map, Prod.mk.injEq] at h
        obtain ⟨pl, _, hq, _⟩ := h
        exact ⟨k, pl.1, hq.symm, by simp [KV.keys]⟩
      | list ll =>
        simp only [List.mem_singleton, Prod.mk.injEq] at h
        exact ⟨k, [], h.1, by simp [KV.keys]⟩
      | _ => simp at h
    · obtain ⟨k', q', hq, hk'⟩ := listLeaves_head rest q l h
      exact ⟨k', q', hq, by simp [KV.keys, hk']⟩

theorem listLeaves_prefixFree : ∀ (vk : KV), vk.wf = true →
    ((listLeaves vk).map Prod.fst).Pairwise Incomparable
  | .nil, _ => by simp [listLeaves]
  | .cons k v rest, hwf => by
    obtain ⟨hk, hvwf, hrwf⟩ := KV.wf_cons hwf
    rw [listLeaves_cons, List.map_append, List.pairwise_append]
    refine ⟨?_, listLeaves_prefixFree rest hrwf, ?_⟩
    · cases v with
      | obj vk' =>
        have ih := listLeaves_prefixFree vk' hvwf
        rw [List.pairwise_map] at ih
        rw [List.map_map, List.pairwise_map]
        apply List.Pairwise.imp _ ih
        intro a b hab
        exact ⟨fun h => hab.1 (List.cons_prefix_cons.mp h).2,
               fun h => hab.2 (List.cons_prefix_cons.mp h).2⟩
      | list ll => simp
      | _ => simp
    · intro a ha b hb
      simp only [List.mem_map] at ha hb
      obtain ⟨⟨qa, la⟩, hma, rfl⟩ := ha
      obtain ⟨⟨qb, lb⟩, hmb, rfl⟩ := hb
      obtain ⟨k', qb', hqb, hk'⟩ := listLeaves_head rest qb lb hmb
      obtain ⟨k0, qa', hqa, hk0⟩ := listLeaves_head (.cons k v .nil) qa la
        (by rw [listLeaves_cons]; simpa [listLeaves] using hma)
      have hne : k0 ≠ k' := by
        simp only [KV.keys, List.mem_singleton] at hk0
        exact fun e => hk (hk0 ▸ e ▸ hk')
      simp only [hqa, hqb]
      exact ⟨fun h => hne (List.cons_prefix_cons.mp h).1,
             fun h => hne (List.cons_prefix_cons.mp h).1.symm⟩

theorem map_some_split {α β} (f : α → Option β) : ∀ (l1 : List α) (e : α) (l2 : List α) (b : List β),
    (l1 ++ e :: l2).map f = b.map some →
    ∃ b1 x b2, b = b1 ++ x :: b2 ∧ f e = some x ∧ l2.map f = b2.map some
  | [], e, l2, b, h => by
    cases b with
    | nil => simp at h
    | cons x b2 =>
      simp only [List.nil_append, List.map_cons, List.cons.injEq] at h
      exact ⟨[], x, b2, rfl, h.1, h.2⟩
  | a :: l1, e, l2, b, h => by
    cases b with
    | nil => simp at h
    | cons y b' =>
      simp only [List.cons_append, List.map_cons, List.cons.injEq] at h
      obtain ⟨b1, x, b2, hb, hx, h2⟩ := map_some_split f l1 e l2 b' h.2
      exact ⟨y :: b1, x, b2, by simp [hb], hx, h2⟩

theorem unpack_cons_inv {n : Nat} {k : String} {v : J} {rest vars : KV}
    (h : unpack n (.cons k v rest) = .ok vars) :
    ∃ x t, unpack n rest = .ok t ∧ vars = .cons k x t ∧
      ∀ vk, v = .obj vk → ∃ L, unpackRange vk n 0 = .ok L ∧ x = .list (JL.ofList L) := by
  cases v with
  | obj vk =>
    simp only [unpack] at h
    split at h
    · cases h
    next L hL =>
      split at h
      next t ht =>
        cases h
        exact ⟨_, t, ht, rfl, fun _ hv => by cases hv; exact ⟨L, hL, rfl⟩⟩
      · cases h
  | _ =>
    simp only [unpack] at h
    split at h
    next t ht =>
      cases h
      exact ⟨_, t, ht, rfl, fun _ hv => nomatch hv⟩
    · cases h

theorem unpack_lookup (n : Nat) : ∀ (desc vars : KV) (k : String) (vk : KV),
    unpack n desc = .ok vars → desc.lookup k = some (.obj vk) →
    ∃ L, unpackRange vk n 0 = .ok L ∧ vars.lookup k = some (.list (JL.ofList L))
  | .nil, _, _, _, _, hl => by simp [KV.lookup] at hl
  | .cons k0 v0 rest, vars, k, vk, h, hl => by
    obtain ⟨x, t, ht, rfl, hx⟩ := unpack_cons_inv h
    by_cases hk : k0 = k
    · simp only [KV.lookup, hk, if_true, Option.some.injEq] at hl
      obtain ⟨L, hL, rfl⟩ := hx vk hl
      exact ⟨L, hL, by simp [KV.lookup, hk]⟩
    · simp only [KV.lookup, hk, if_false] at hl ⊢
      exact unpack_lookup n rest t k vk ht hl


theorem isSome_setKey {k k' : String} {v : J} {kvs : KV} (h : (kvs.lookup k').isSome = true) :
    ((kvs.setKey k v).lookup k').isSome = true := by
  by_cases e : k' = k
  · subst e; simp [KV.lookup_setKey_same]
  · rw [KV.lookup_setKey_ne v e]; exact h

theorem varyProgramsInner_present (base : PH) (n i : Nat) : ∀ (vars : KV) (acc acc' : KV × SML),
    varyProgramsInner base n i acc vars = .ok acc' →
    (∀ pname, pname ∈ vars.keys → (acc'.1.lookup (rename pname i)).isSome = true) ∧
    (∀ k, (acc.1.lookup k).isSome = true → (acc'.1.lookup k).isSome = true)
  | .nil, acc, acc', h => by
    simp only [varyProgramsInner] at h
    cases h
    exact ⟨by simp [KV.keys], fun _ hk => hk⟩
  | .cons pname pvars rest, acc, acc', h => by
    obtain ⟨p, sm, hp, h⟩ := varyProgramsInner_cons_inv h
    obtain ⟨ih1, ih2⟩ := varyProgramsInner_present base n i rest _ acc' h
    constructor
    · intro q hq
      simp only [KV.keys, List.mem_cons] at hq
      rcases hq with rfl | hq
      · exact ih2 _ (by simp [KV.lookup_setKey_same])
      · exact ih1 q hq
    · intro k hk
      exact ih2 k (isSome_setKey hk)

theorem varyProgramsOuter_present (base : PH) (n : Nat) (vars : KV) :
    ∀ (cnt off : Nat) (acc acc' : KV × SML),
    varyProgramsOuter base n vars cnt off acc = .ok acc' →
    (∀ pname i, pname ∈ vars.keys → off ≤ i → i < off + cnt →
        (acc'.1.lookup (rename pname i)).isSome = true) ∧
    (∀ k, (acc.1.lookup k).isSome = true → (acc'.1.lookup k).isSome = true)
  | 0, off, acc, acc', h => by
    simp only [varyProgramsOuter] at h
    cases h
    exact ⟨fun _ i _ h1 h2 => by omega, fun _ hk => hk⟩
  | cnt + 1, off, acc, acc', h => by
    obtain ⟨acc1, hi, h⟩ := varyProgramsOuter_succ_inv h
    obtain ⟨in1, in2⟩ := varyProgramsInner_present base n off vars acc acc1 hi
    obtain ⟨ih1, ih2⟩ := varyProgramsOuter_present base n vars cnt (off + 1) acc1 acc' h
    constructor
    · intro q i hq h1 h2
      by_cases e : i = off
      · subst e; exact ih2 _ (in1 q hq)
      · exact ih1 q i hq (by omega) (by omega)
    · intro k hk
      exact ih2 k (in2 k hk)

theorem varyProgramsInner_lookup (base : PH) (n i : Nat) : ∀ (vars : KV) (acc acc' : KV × SML)
    (pname : String) (pvars : J), vars.wf = true →
    varyProgramsInner base n i acc vars = .ok acc' → vars.lookup pname = some pvars →
    (∀ q, q ∈ vars.keys → q ≠ pname → rename q i ≠ rename pname i) →
    ∃ p sm, varyProgram base n i pname pvars = .ok (rename pname i, p, sm) ∧
      acc'.1.lookup (rename pname i) = some p
  | .nil, _, _, _, _, _, _, hl, _ => by simp [KV.lookup] at hl
  | .cons q0 v0 rest, acc, acc', pname, pvars, hwf, h, hl, hnc => by
    obtain ⟨hq0, _, hwfr⟩ := KV.wf_cons hwf
    obtain ⟨p, sm, hp, h⟩ := varyProgramsInner_cons_inv h
    by_cases hk : q0 = pname
    · subst hk
      simp only [KV.lookup, if_true] at hl
      cases hl
      refine ⟨p, sm, hp, ?_⟩
      rw [varyProgramsInner_other base n i (rename q0 i) rest _ acc' h
        (fun q hq => hnc q (by simp [KV.keys, hq]) (fun e => hq0 (e ▸ hq)))]
      exact KV.lookup_setKey_same _ _ _
    · simp only [KV.lookup, hk, if_false] at hl
      exact varyProgramsInner_lookup base n i rest _ acc' pname pvars hwfr h hl
        (fun q hq hne => hnc q (by simp [KV.keys, hq]) hne)

theorem varyProgramsOuter_lookup (base : PH) (n : Nat) (vars : KV) (pname : String) (pvars : J)
    (i : Nat) (hwf : vars.wf = true) (hl : vars.lookup pname = some pvars)
    (hnc : ∀ q j, q ∈ vars.keys → (q ≠ pname ∨ j ≠ i) → rename q j ≠ rename pname i) :
    ∀ (cnt off : Nat) (acc acc' : KV × SML),
    varyProgramsOuter base n vars cnt off acc = .ok acc' → off ≤ i → i < off + cnt →
    ∃ p sm, varyProgram base n i pname pvars = .ok (rename pname i, p, sm) ∧
      acc'.1.lookup (rename pname i) = some p
  | 0, off, _, _, _, h1, h2 => by omega
  | cnt + 1, off, acc, acc', h, h1, h2 => by
    obtain ⟨acc1, hi, h⟩ := varyProgramsOuter_succ_inv h
    by_cases e : i = off
    · subst e
      obtain ⟨p, sm, hp, hlk⟩ := varyProgramsInner_lookup base n i vars acc acc1 pname pvars hwf hi hl
        (fun q hq hne => hnc q i hq (Or.inl hne))
      refine ⟨p, sm, hp, ?_⟩
      rw [varyProgramsOuter_other base n vars (rename pname i) cnt (i + 1) acc1 acc' h
        (fun q j hq hj1 _ => hnc q j hq (Or.inr (by omega)))]
      exact hlk
    · exact varyProgramsOuter_lookup base n vars pname pvars i hwf hl hnc cnt (off + 1) acc1 acc' h
        (by omega) (by omega)

theorem varyMethod_inv {n i : Nat} {ms ms2 : KV} {mm mm1 : SML} {labels labels1 : List J}
    {mname : String} {mvars : J}
    (h : varyMethod n i ms mm labels mname mvars = .ok (ms2, mm1, labels1)) :
    ∃ target vk ls ad, ms.lookup mname = some target ∧ mvars = .obj vk ∧
      removeFirst (.str mname) labels = some ls ∧ labels1 = ls ++ [J.str (rename mname i)] ∧
      buildAlter n i .nil vk = .ok ad ∧
      alterD (.high mm1) ((ms.erase mname).setKey (rename mname i) target) (rename mname i)
        (.obj (ad.setKey "method_name" (.str (rename mname i)))) = .ok ms2 := by
  simp only [varyMethod] at h
  split at h
  · cases h
  · rename_i target ht
    split at h
    · cases h
    · rename_i ls hls
      split at h
      · rename_i vk
        split at h
        · cases h
        · rename_i ad had
          split at h
          · rename_i ms2' halt
            simp only [Except.ok.injEq, Prod.mk.injEq] at h
            obtain ⟨rfl, rfl, rfl⟩ := h
            exact ⟨target, vk, ls, ad, ht, rfl, hls, rfl, had, halt⟩
          · cases h
      · cases h


/-- what set `i` applies: for every described key, in order, the slice of its value list -/
def slicesOf (n i : Nat) : KV → Option (List (String × List J))
  | .nil => some []
  | .cons k (.list l) rest => (slicesOf n i rest).map (fun t => (k, sliceFor n i l) :: t)
  | .cons _ _ _ => none

/-- apply the slices to a dictionary (no other input, no state from other sets) -/
def applySlices (sm : SM) : KV → List (String × List J) → Except Rej KV
  | d, [] => .ok d
  | d, (k, xs) :: rest =>
    match alterSeq sm d k xs with
    | .ok d' => applySlices sm d' rest
    | .error e => .error e

theorem alterVariations_eq_applySlices (sm : SM) (n i : Nat) : ∀ (vars d : KV) (sl : List (String × List J)),
    slicesOf n i vars = some sl → alterVariations sm n i d vars = applySlices sm d sl
  | .nil, d, sl, h => by
    simp only [slicesOf, Option.some.injEq] at h
    subst h
    simp [alterVariations, applySlices]
  | .cons k (.list l) rest, d, sl, h => by
    simp only [slicesOf] at h
    cases hr : slicesOf n i rest with
    | none => simp [hr] at h
    | some t =>
      simp only [hr, Option.map_some, Option.some.injEq] at h
      subst h
      simp only [alterVariations, applySlices]
      cases alterSeq sm d k (sliceFor n i l) with
      | error e => rfl
      | ok d' => exact alterVariations_eq_applySlices sm n i rest d' t hr
  | .cons k .null rest, _, _, h | .cons k (.bool _) rest, _, _, h | .cons k (.int _) rest, _, _, h
  | .cons k (.float _ _) rest, _, _, h | .cons k (.str _) rest, _, _, h
  | .cons k (.obj _) rest, _, _, h => by simp [slicesOf] at h

end LdarModel.Holder
