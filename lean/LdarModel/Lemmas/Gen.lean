import LdarModel.Model.Gen
/-
Helper lemmas for the emission generator: bounds and order of the hit days, the two loops
(start dates form a sublist of the hit days, ids count up from the leak counter, the
single-emission guard keeps a gap of more than `dur` days).  Core Lean only.
-/
namespace LdarModel.Gen

theorem hits_mem {bs : List Bool} {d x : Int} (h : x ∈ hits bs d) : d ≤ x ∧ x < d + bs.length := by
  induction bs generalizing d with
  | nil => simp [hits] at h
  | cons b bs ih =>
    simp only [hits] at h
    simp only [List.length_cons, Int.natCast_add, Int.cast_ofNat_Int]
    split at h
    · rcases List.mem_cons.mp h with rfl | h'
      · omega
      · have := ih h'; omega
    · have := ih h; omega

theorem hits_pairwise (bs : List Bool) (d : Int) : (hits bs d).Pairwise (· < ·) := by
  induction bs generalizing d with
  | nil => simp [hits]
  | cons b bs ih =>
    simp only [hits]
    split
    · refine List.pairwise_cons.mpr ⟨?_, ih _⟩
      intro y hy
      have := (hits_mem hy).1
      omega
    · exact ih _

theorem preLoop_starts_sublist (multi : Bool) (ds : List Int) (leak : Nat) :
    ((preLoop multi ds leak).map (·.start)).Sublist ds := by
  induction ds generalizing leak with
  | nil => simp [preLoop]
  | cons d ds ih =>
    cases multi
    · simp [preLoop]
    · simpa [preLoop] using ih (leak + 1)

theorem preLoop_ids (multi : Bool) (ds : List Int) (leak : Nat) :
    (preLoop multi ds leak).map (·.id) = List.range' leak (preLoop multi ds leak).length := by
  induction ds generalizing leak with
  | nil => simp [preLoop]
  | cons d ds ih =>
    cases multi
    · simp [preLoop]
    · simp [preLoop, List.range', ih (leak + 1)]

theorem preLoop_single_length (ds : List Int) (leak : Nat) : (preLoop false ds leak).length ≤ 1 := by
  cases ds <;> simp [preLoop]

theorem simLoop_starts_sublist (dur : Nat) (multi : Bool) (ds : List Int) (last : Int) (leak : Nat) :
    ((simLoop dur multi ds last leak).map (·.start)).Sublist ds := by
  induction ds generalizing last leak with
  | nil => simp [simLoop]
  | cons d ds ih =>
    simp only [simLoop]
    split
    · exact List.Sublist.cons _ (ih _ _)
    · simpa using ih _ _

theorem simLoop_ids (dur : Nat) (multi : Bool) (ds : List Int) (last : Int) (leak : Nat) :
    (simLoop dur multi ds last leak).map (·.id)
      = List.range' leak (simLoop dur multi ds last leak).length := by
  induction ds generalizing last leak with
  | nil => simp [simLoop]
  | cons d ds ih =>
    simp only [simLoop]
    split
    · exact ih _ _
    · simp [List.range', ih _ (leak + 1)]

theorem simLoop_gap (dur : Nat) (ds : List Int) (last : Int) (leak : Nat) :
    (∀ e ∈ simLoop dur false ds last leak, last < e.start) ∧
    (simLoop dur false ds last leak).Pairwise (fun a b => a.start + (dur : Int) < b.start) := by
  induction ds generalizing last leak with
  | nil => simp [simLoop]
  | cons d ds ih =>
    simp only [simLoop]
    by_cases hd : d ≤ last
    · simpa [hd] using ih last leak
    · obtain ⟨h1, h2⟩ := ih (d + dur) (leak + 1)
      simp only [Bool.not_false, Bool.true_and, hd, decide_false, Bool.false_eq_true, ↓reduceIte]
      refine ⟨List.forall_mem_cons.mpr ⟨?_, fun e he => ?_⟩, List.pairwise_cons.mpr ⟨h1, h2⟩⟩
      · show last < d
        omega
      · have := h1 e he
        omega

section
variable (pre sim : List Bool) (dur : Nat) (multi preEnabled : Bool)

def prePart : List Em :=
  if preEnabled then preLoop multi (hits (pre.take dur) (-(dur : Int))) 0 else []

def simPart : List Em :=
  simLoop dur multi (hits sim 0) (lastAfterPre dur multi (prePart pre dur multi preEnabled))
    (prePart pre dur multi preEnabled).length

theorem created_eq :
    created pre sim dur multi preEnabled
      = prePart pre dur multi preEnabled ++ simPart pre sim dur multi preEnabled := rfl

theorem prePart_starts_sublist :
    ((prePart pre dur multi preEnabled).map (·.start)).Sublist (hits (pre.take dur) (-(dur : Int))) := by
  unfold prePart
  split
  · exact preLoop_starts_sublist _ _ _
  · exact List.nil_sublist _

theorem prePart_bounds :
    ∀ e ∈ prePart pre dur multi preEnabled, -(dur : Int) ≤ e.start ∧ e.start < 0 := by
  intro e he
  have := hits_mem ((prePart_starts_sublist pre dur multi preEnabled).subset
    (List.mem_map_of_mem he))
  have := List.length_take_le dur pre
  omega

theorem simPart_bounds :
    ∀ e ∈ simPart pre sim dur multi preEnabled, 0 ≤ e.start ∧ e.start < sim.length := by
  intro e he
  have := hits_mem ((simLoop_starts_sublist dur multi (hits sim 0) _ _).subset
    (List.mem_map_of_mem he))
  omega

theorem prePart_sorted :
    ((prePart pre dur multi preEnabled).map (·.start)).Pairwise (· < ·) :=
  (hits_pairwise _ _).sublist (prePart_starts_sublist pre dur multi preEnabled)

theorem simPart_sorted :
    ((simPart pre sim dur multi preEnabled).map (·.start)).Pairwise (· < ·) :=
  (hits_pairwise _ _).sublist (simLoop_starts_sublist _ _ _ _ _)

theorem prePart_single_length :
    (prePart pre dur false preEnabled).length ≤ 1 := by
  unfold prePart
  split
  · exact preLoop_single_length _ _
  · exact Nat.zero_le 1

theorem created_ids :
    (created pre sim dur multi preEnabled).map (·.id)
      = List.range (created pre sim dur multi preEnabled).length := by
  have hp : (prePart pre dur multi preEnabled).map (·.id)
      = List.range' 0 (prePart pre dur multi preEnabled).length := by
    unfold prePart
    split
    · exact preLoop_ids _ _ _
    · rfl
  rw [created_eq, List.map_append, List.length_append, hp, simPart, simLoop_ids,
    List.range_eq_range', ← List.range'_append_1, Nat.zero_add]

end

end LdarModel.Gen
