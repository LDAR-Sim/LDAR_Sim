import LdarModel.Model.Emission
/-
Lemmas on the emission state machine: what each step of a day does, and the day-indexed invariant
`Inv` of a repairable emission (proved by induction over the days for every event schedule) from
which C02 / C03 / C04 / C11 follow.
-/
namespace LdarModel.Emission

/-- first simulated day on which the emission can be active: `max start 0` -/
def a (p : Params) : Int := if p.start > 0 then p.start else 0

/-- natural number of active days inside the period if the horizon is long enough:
`max 1 (nrd - b4)` (an emission activated on day `a` is active at least that day) -/
def L (p : Params) : Int := if p.nrd - b4 p ≥ 1 then p.nrd - b4 p else 1

theorem start_add_b4 (p : Params) : p.start + b4 p = a p := by
  unfold b4 a; split <;> split <;> omega

theorem L_eq (p : Params) : L p = if p.nrd - b4 p ≥ 1 then p.nrd - b4 p else 1 := rfl

theorem L_pos (p : Params) : 1 ≤ L p := by unfold L; split <;> omega

theorem run_step (p : Params) (ev : Nat → List TagEv) (n : Nat) :
    run p ev (n + 1) = day p n (ev n) (run p ev n) := rfl

theorem baseline_step (p : Params) (n : Nat) :
    baseline p (n + 1) = day p n [] (baseline p n) := rfl

theorem By.eq_company (b : By) (h1 : b ≠ .none) (h2 : b ≠ .natural) (h3 : b ≠ .expire) :
    ∃ c, b = .company c := by
  cases b <;> simp_all

theorem endedAt_eq (p : Params) (s : State) : endedAt p s = a p + s.activeDays := by
  unfold endedAt; have := start_add_b4 p; omega

theorem activate_cases (p : Params) (d : Int) (s : State) :
    (s.status = .inactive ∧ p.start ≤ d ∧ activate p d s =
      { s with status := .active, emitting := if p.intermittent then true else s.emitting }) ∨
    (¬ (s.status = .inactive ∧ p.start ≤ d) ∧ activate p d s = s) := by
  unfold activate; by_cases h : s.status = .inactive ∧ p.start ≤ d <;> simp [h]

theorem tag_frame (p : Params) (d : Int) (e : TagEv) (s : State) :
    (tag p d e s).status = s.status ∧ (tag p d e s).activeDays = s.activeDays ∧
    (tag p d e s).dst = s.dst ∧ (tag p d e s).endDate = s.endDate ∧
    (tag p d e s).emitting = s.emitting ∧ (tag p d e s).daysEmitting = s.daysEmitting ∧
    (tag p d e s).onCount = s.onCount ∧ (tag p d e s).offCount = s.offCount := by
  unfold tag detectRec; grind

theorem tag_settled (p : Params) (d : Int) (e : TagEv) (s : State)
    (h : s.status ≠ .active ∨ (s.tagged = true ∧ s.initDetectBy ≠ none)) : tag p d e s = s := by
  unfold tag detectRec; grind

theorem tag_fresh (p : Params) (d : Int) (e : TagEv) (s : State) (hs : s.status = .active)
    (ht : s.tagged = false) (hd : s.initDetectBy = none) :
    tag p d e s = { s with tagged := true, by_ := .company e.company,
                           trd := if p.repairable then e.trd else s.trd,
                           initDetectBy := some e.company, initDetect := some d } := by
  unfold tag detectRec; simp [hs, ht, hd]

theorem tags_induction {p : Params} {d : Int} (P : State → Prop)
    (h : ∀ e s, P s → P (tag p d e s)) :
    ∀ (evs : List TagEv) (s : State), P s → P (evs.foldl (fun s e => tag p d e s) s)
  | [], _, hs => hs
  | e :: evs, s, hs => tags_induction P h evs _ (h e s hs)

theorem tags_frame (p : Params) (d : Int) (evs : List TagEv) (s : State) :
    let t := evs.foldl (fun s e => tag p d e s) s
    t.status = s.status ∧ t.activeDays = s.activeDays ∧ t.dst = s.dst ∧ t.endDate = s.endDate ∧
    t.emitting = s.emitting ∧ t.daysEmitting = s.daysEmitting ∧ t.onCount = s.onCount ∧
    t.offCount = s.offCount :=
  tags_induction (fun t => t.status = s.status ∧ t.activeDays = s.activeDays ∧ t.dst = s.dst ∧
      t.endDate = s.endDate ∧ t.emitting = s.emitting ∧ t.daysEmitting = s.daysEmitting ∧
      t.onCount = s.onCount ∧ t.offCount = s.offCount)
    (fun e t h => by have := tag_frame p d e t; grind) evs s (by simp)

theorem toggle_frame (p : Params) (s : State) :
    (toggle p s).status = s.status ∧ (toggle p s).activeDays = s.activeDays ∧
    (toggle p s).tagged = s.tagged ∧ (toggle p s).by_ = s.by_ ∧ (toggle p s).endDate = s.endDate ∧
    (toggle p s).dst = s.dst ∧ (toggle p s).trd = s.trd ∧ (toggle p s).initDetect = s.initDetect ∧
    (toggle p s).initDetectBy = s.initDetectBy := by
  unfold toggle; grind

/-- the day's count on an active emission: one more active day and, for a tagged repairable one,
one more day since the tag -/
abbrev counted (p : Params) (s : State) : State :=
  { s with activeDays := s.activeDays + 1,
           dst := if p.repairable ∧ s.tagged then s.dst + 1 else s.dst }

/-- `update` with its nested tests flattened -/
theorem update_eq (p : Params) (s : State) : update p s =
    if s.status ≠ .active then s
    else if p.repairable = true ∧ s.tagged = true ∧ s.dst + 1 ≥ p.repairDelay + s.trd then
      { counted p s with status := .repaired, endDate := some (endedAt p (counted p s)) }
    else if s.activeDays + 1 + b4 p ≥ p.nrd then
      (if p.repairable = true then
        { counted p s with tagged := true, by_ := .natural, status := .repaired,
                           endDate := some (endedAt p (counted p s)) }
       else { counted p s with by_ := .expire, status := .expired,
                               endDate := some (endedAt p (counted p s)) })
    else toggle p (counted p s) := by
  unfold update counted
  by_cases hs : s.status = .active
  · cases hr : p.repairable
    · simp [hs]
    · cases ht : s.tagged <;> simp [hs]
  · simp [hs]

theorem update_frame (p : Params) (s : State) :
    (update p s).initDetect = s.initDetect ∧ (update p s).initDetectBy = s.initDetectBy ∧
    (update p s).trd = s.trd := by
  have tf := toggle_frame p (counted p s)
  rw [update_eq]; grind

/-- invariant after `n` complete days (days `0..n-1`) of a repairable emission -/
def Inv (p : Params) (n : Nat) (s : State) : Prop :=
  (s.status = .inactive → (n : Int) ≤ a p ∧ s.activeDays = 0 ∧ s.tagged = false ∧ s.by_ = .none
      ∧ s.endDate = none ∧ s.initDetect = none ∧ s.dst = 0) ∧
  (s.status = .active → a p < n ∧ s.activeDays = n - a p ∧ s.activeDays < L p ∧ s.by_ ≠ .natural
      ∧ s.by_ ≠ .expire ∧ s.endDate = none ∧ (s.tagged = false → s.by_ = .none ∧ s.dst = 0)
      ∧ (s.tagged = true → s.by_ ≠ .none)) ∧
  (s.status = .repaired → s.endDate = some (a p + s.activeDays) ∧ 1 ≤ s.activeDays
      ∧ s.activeDays ≤ n - a p ∧ s.activeDays ≤ L p ∧ (s.by_ = .natural → s.activeDays = L p)
      ∧ s.tagged = true ∧ s.by_ ≠ .none ∧ s.by_ ≠ .expire) ∧
  s.status ≠ .expired

/-- the same, in the middle of day `n`: after activation and tagging, before the daily update -/
def InvMid (p : Params) (n : Nat) (s : State) : Prop :=
  (s.status = .inactive → (n : Int) < a p ∧ s.activeDays = 0 ∧ s.tagged = false ∧ s.by_ = .none
      ∧ s.endDate = none ∧ s.initDetect = none ∧ s.dst = 0) ∧
  (s.status = .active → a p ≤ n ∧ s.activeDays = n - a p ∧ s.activeDays < L p ∧ s.by_ ≠ .natural
      ∧ s.by_ ≠ .expire ∧ s.endDate = none ∧ (s.tagged = false → s.by_ = .none ∧ s.dst = 0)
      ∧ (s.tagged = true → s.by_ ≠ .none)) ∧
  (s.status = .repaired → s.endDate = some (a p + s.activeDays) ∧ 1 ≤ s.activeDays
      ∧ s.activeDays ≤ n - a p ∧ s.activeDays ≤ L p ∧ (s.by_ = .natural → s.activeDays = L p)
      ∧ s.tagged = true ∧ s.by_ ≠ .none ∧ s.by_ ≠ .expire) ∧
  s.status ≠ .expired

/-! the clauses of the two invariants that their users reach for -/
section
variable {p : Params} {n : Nat} {s : State}

theorem Inv.pending (h : Inv p n s) (hs : s.status = .inactive) : (n : Int) ≤ a p ∧ s.by_ = .none :=
  ⟨(h.1 hs).1, (h.1 hs).2.2.2.1⟩

theorem Inv.tagged_by (h : Inv p n s) (hs : s.status = .active) (ht : s.tagged = true) :
    ∃ c, s.by_ = .company c :=
  By.eq_company _ ((h.2.1 hs).2.2.2.2.2.2.2 ht) (h.2.1 hs).2.2.2.1 (h.2.1 hs).2.2.2.2.1

theorem Inv.repaired_by (h : Inv p n s) (hs : s.status = .repaired) :
    s.by_ = .natural ∨ ∃ c, s.by_ = .company c :=
  Decidable.or_iff_not_imp_left.2 fun hby =>
    By.eq_company _ (h.2.2.1 hs).2.2.2.2.2.2.1 hby (h.2.2.1 hs).2.2.2.2.2.2.2

theorem Inv.repaired_days (h : Inv p n s) (hs : s.status = .repaired) :
    1 ≤ s.activeDays ∧ s.activeDays ≤ n - a p ∧ s.activeDays ≤ L p :=
  ⟨(h.2.2.1 hs).2.1, (h.2.2.1 hs).2.2.1, (h.2.2.1 hs).2.2.2.1⟩

theorem Inv.natural_end (h : Inv p n s) (hs : s.status = .repaired) (hby : s.by_ = .natural) :
    s.activeDays = L p ∧ s.endDate = some (a p + L p) :=
  have hL := (h.2.2.1 hs).2.2.2.2.1 hby
  ⟨hL, by rw [(h.2.2.1 hs).1, hL]⟩

theorem InvMid.pending (h : InvMid p n s) (hs : s.status = .inactive) : (n : Int) < a p :=
  (h.1 hs).1

theorem InvMid.untagged (h : InvMid p n s) (hs : s.status = .active) (ht : s.tagged = false) :
    a p ≤ n ∧ s.by_ = .none ∧ s.dst = 0 :=
  ⟨(h.2.1 hs).1, (h.2.1 hs).2.2.2.2.2.2.1 ht⟩

theorem InvMid.tagged_by (h : InvMid p n s) (hs : s.status = .active) (ht : s.tagged = true) :
    ∃ c, s.by_ = .company c :=
  By.eq_company _ ((h.2.1 hs).2.2.2.2.2.2.2 ht) (h.2.1 hs).2.2.2.1 (h.2.1 hs).2.2.2.2.1

end

theorem activate_mid (p : Params) (n : Nat) (s : State) (h : Inv p n s) :
    InvMid p n (activate p n s) := by
  unfold Inv at h; unfold InvMid activate a at *
  have := L_pos p
  grind

theorem tag_mid (p : Params) (n : Nat) (e : TagEv) (s : State) (h : InvMid p n s) :
    InvMid p n (tag p n e s) := by
  unfold InvMid at *; unfold tag detectRec
  grind

theorem tags_mid (p : Params) (n : Nat) (evs : List TagEv) (s : State) (h : InvMid p n s) :
    InvMid p n (evs.foldl (fun s e => tag p n e s) s) :=
  tags_induction (InvMid p n) (tag_mid p n) evs s h

theorem update_inv (p : Params) (hr : p.repairable = true) (n : Nat) (s : State)
    (h : InvMid p n s) : Inv p (n + 1) (update p s) := by
  unfold InvMid at h
  have hL := L_eq p
  have tf := toggle_frame p (counted p s)
  have he := endedAt_eq p (counted p s)
  -- The natural-end test `activeDays + 1 + b4 ≥ nrd` is `activeDays + 1 ≥ L`: an emission active
  -- `n − a` days ends with at most `L` days (exactly `L` if naturally) or stays below `L`.
  rw [update_eq]; unfold Inv
  grind

theorem run_inv (p : Params) (hr : p.repairable = true) (ev : Nat → List TagEv) (n : Nat) :
    Inv p n (run p ev n) := by
  induction n with
  | zero => unfold Inv run init a; simp; split <;> omega
  | succ n ih =>
    rw [run_step]; exact update_inv p hr n _ (tags_mid p n (ev n) _ (activate_mid p n _ ih))

end LdarModel.Emission
