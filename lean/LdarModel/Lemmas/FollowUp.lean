import LdarModel.Model.FollowUp
/-
Helper lemmas for the follow-up work practice.  Pool and queue insertion are permutations of `x :: l`,
so counts and membership follow.  `RecStep` lists what routing one released record can do; each
invariant is shown by cases on it, once for both kinds of screening method, and carried through the
daily update by `dailyUpdate_ind`; loops go through `foldl_inv` / `foldl_loop`.

Invariants, proved for every history:
  `InvA`  structure: a site is in the pool / in the queue exactly once iff its flag is set, never
          both; flag events = completed + withdrawn + outstanding            (one_outstanding)
  `Sorted` the pool is sorted by decreasing rate                              (proportion: largest first)
  `InvC`  provenance and dates: every pooled / queued plan and every flag event stems from released
          records of its site, not before the reporting delay, with the routing condition
          (queued_implies_flagged, not_before_reporting_delay)
  `InvD`  the flag counter counts the flag events; visits are not before the reporting delay
  `K`     any number of screening methods: completed + withdrawn + outstanding ≤ flags
-/
namespace LdarModel.FollowUp

def b2n (b : Bool) : Nat := if b then 1 else 0

/-- number of plans of a site in a pool -/
def cnt (l : List Plan) (s : Nat) : Nat := l.countP (fun pl => pl.site = s)

@[simp] theorem b2n_true : b2n true = 1 := rfl
@[simp] theorem b2n_false : b2n false = 0 := rfl
theorem b2n_le (b : Bool) : b2n b ≤ 1 := by cases b <;> simp
theorem b2n_eq_one {b : Bool} : b2n b = 1 ↔ b = true := by cases b <;> simp
theorem b2n_eq_zero {b : Bool} : b2n b = 0 ↔ b = false := by cases b <;> simp
theorem of_pos_eq_b2n {n : Nat} {b : Bool} (h : n = b2n b) (hn : 0 < n) : b = true := by
  cases b
  · exact absurd hn (h ▸ Nat.lt_irrefl 0)
  · rfl

theorem setB_apply (f : Nat → Bool) (s : Nat) (v : Bool) (x : Nat) :
    setB f s v x = if x = s then v else f x := rfl
theorem bump_apply (f : Nat → Nat) (s x : Nat) : bump f s x = if x = s then f x + 1 else f x := rfl

/-! ### loops -/

theorem foldl_inv {σ α} {P : σ → Prop} {f : σ → α → σ} {l : List α}
    (h : ∀ s, ∀ a ∈ l, P s → P (f s a)) {s : σ} (hs : P s) : P (l.foldl f s) := by
  induction l generalizing s with
  | nil => exact hs
  | cons a t ih =>
    exact ih (fun s b hb => h s b (List.mem_cons_of_mem _ hb)) (h s a List.mem_cons_self hs)

theorem foldl_loop {σ α} {P : σ → List α → Prop} {f : σ → α → σ}
    (h : ∀ s a t, P s (a :: t) → P (f s a) t) {l : List α} {s : σ} (hs : P s l) :
    P (l.foldl f s) [] := by
  induction l generalizing s with
  | nil => exact hs
  | cons a t ih => exact ih (h s a t hs)

/-! ### pool -/

@[simp] theorem cnt_nil (s : Nat) : cnt [] s = 0 := rfl
theorem cnt_cons (x : Plan) (l : List Plan) (s : Nat) :
    cnt (x :: l) s = cnt l s + (if s = x.site then 1 else 0) := by
  simp [cnt, List.countP_cons, eq_comm]

theorem cnt_append (a b : List Plan) (s : Nat) : cnt (a ++ b) s = cnt a s + cnt b s :=
  List.countP_append

theorem cnt_take_drop (l : List Plan) (k s : Nat) : cnt (l.take k) s + cnt (l.drop k) s = cnt l s := by
  rw [← cnt_append, List.take_append_drop]

theorem cnt_pos_iff {l : List Plan} {s : Nat} : 0 < cnt l s ↔ ∃ pl ∈ l, pl.site = s := by
  simp [cnt, List.countP_pos_iff]

theorem poolInsert_perm (x : Plan) (l : List Plan) : (poolInsert x l).Perm (x :: l) := by
  induction l with
  | nil => exact .refl _
  | cons y t ih =>
    unfold poolInsert
    split
    · exact .refl _
    · exact (ih.cons y).trans (.swap x y t)

theorem cnt_poolInsert (x : Plan) (l : List Plan) (s : Nat) :
    cnt (poolInsert x l) s = cnt l s + (if s = x.site then 1 else 0) := by
  rw [← cnt_cons]; exact (poolInsert_perm x l).countP_eq _

theorem mem_poolInsert {x y : Plan} {l : List Plan} : y ∈ poolInsert x l ↔ y = x ∨ y ∈ l := by
  rw [(poolInsert_perm x l).mem_iff, List.mem_cons]

def Sorted (l : List Plan) : Prop := l.Pairwise (fun a b => b.rate ≤ a.rate)

theorem sorted_poolInsert (x : Plan) (l : List Plan) (h : Sorted l) : Sorted (poolInsert x l) := by
  unfold Sorted at *
  induction l with
  | nil => simp [poolInsert]
  | cons y t ih =>
    unfold poolInsert
    rw [List.pairwise_cons] at h
    split
    · next hlt =>
      refine List.pairwise_cons.mpr ⟨?_, List.pairwise_cons.mpr h⟩
      intro z hz
      rcases List.mem_cons.mp hz with rfl | hz
      · exact Rat.le_of_lt hlt
      · exact Rat.le_trans (h.1 z hz) (Rat.le_of_lt hlt)
    · next hlt =>
      refine List.pairwise_cons.mpr ⟨?_, ih h.2⟩
      intro z hz
      rcases mem_poolInsert.mp hz with rfl | hz
      · exact Rat.not_lt.mp hlt
      · exact h.1 z hz

theorem poolTake_some {s : Nat} {l l' : List Plan} {pl : Plan} (h : poolTake s l = (some pl, l')) :
    pl.site = s ∧ l.Perm (pl :: l') ∧ l'.Sublist l := by
  induction l generalizing l' with
  | nil => simp [poolTake] at h
  | cons y t ih =>
    unfold poolTake at h
    split at h
    · next hy =>
      obtain ⟨rfl, rfl⟩ : y = pl ∧ t = l' := by simpa using h
      exact ⟨hy, .refl _, List.sublist_cons_self ..⟩
    · obtain ⟨h1, rfl⟩ := Prod.mk.inj h
      obtain ⟨a, b, c⟩ := ih (Prod.ext h1 rfl)
      exact ⟨a, (b.cons y).trans (.swap ..), c.cons_cons y⟩

theorem poolTake_none {s : Nat} {l l' : List Plan} (h : poolTake s l = (none, l')) : cnt l s = 0 := by
  induction l generalizing l' with
  | nil => rfl
  | cons y t ih =>
    unfold poolTake at h
    split at h
    · simp at h
    · next hy => 
      rw [cnt_cons, ih (Prod.ext (Prod.mk.inj h).1 rfl), if_neg (fun e => hy e.symm)]

theorem cnt_of_poolTake {s : Nat} {l l' : List Plan} {pl : Plan} (h : poolTake s l = (some pl, l'))
    (t : Nat) : cnt l t = cnt l' t + (if t = s then 1 else 0) := by
  obtain ⟨hs, hp, _⟩ := poolTake_some h
  rw [← hs, ← cnt_cons]; exact hp.countP_eq _

theorem unflag_spec (rej : List Plan) (g : Nat → Bool) (s : Nat) :
    (rej.foldl (fun f pl => setB f pl.site false) g) s = if cnt rej s = 0 then g s else false := by
  induction rej generalizing g with
  | nil => simp
  | cons y t ih =>
    simp only [List.foldl_cons, ih, cnt_cons, setB_apply]
    split <;> simp [*]

/-! ### queue -/

theorem outstanding_nil (s : Nat) : outstanding [] s = 0 := rfl
theorem outstanding_cons (x : QE) (l : List QE) (s : Nat) :
    outstanding (x :: l) s = outstanding l s + (if s = x.plan.site then 1 else 0) := by
  simp [outstanding, List.countP_cons, eq_comm]

theorem outstanding_pos_iff {q : List QE} {s : Nat} : 0 < outstanding q s ↔ ∃ e ∈ q, e.plan.site = s := by
  simp [outstanding, List.countP_pos_iff]

theorem qInsert_perm (x : QE) (l : List QE) : (qInsert x l).Perm (x :: l) := by
  induction l with
  | nil => exact .refl _
  | cons y t ih =>
    unfold qInsert
    split
    · exact .refl _
    · exact (ih.cons y).trans (.swap x y t)

theorem outstanding_qInsert (x : QE) (l : List QE) (s : Nat) :
    outstanding (qInsert x l) s = outstanding l s + (if s = x.plan.site then 1 else 0) := by
  rw [← outstanding_cons]; exact (qInsert_perm x l).countP_eq _

theorem mem_qInsert {x y : QE} {l : List QE} : y ∈ qInsert x l ↔ y = x ∨ y ∈ l := by
  rw [(qInsert_perm x l).mem_iff, List.mem_cons]

theorem outstanding_qRemove (s : Nat) (q : List QE) (t : Nat) :
    outstanding (qRemove s q) t = if t = s then 0 else outstanding q t := by
  unfold outstanding qRemove
  rw [List.countP_filter]
  split
  · next h => subst h; simp
  · next h => exact List.countP_congr (by intro e _; simp; intro h1 h2; exact h (h1 ▸ h2))

theorem mem_qRemove {s : Nat} {q : List QE} {e : QE} (h : e ∈ qRemove s q) : e ∈ q ∧ e.plan.site ≠ s := by
  simpa [qRemove] using h

theorem qFindLast_some {s : Nat} {q : List QE} {pl : Plan} (h : qFindLast s q = some pl) :
    ∃ e ∈ q, e.plan = pl ∧ pl.site = s := by
  obtain ⟨e, he, rfl⟩ := Option.map_eq_some_iff.mp h
  have := List.mem_filter.mp (List.mem_of_getLast? he)
  exact ⟨e, this.1, rfl, by simpa using this.2⟩

theorem qFindLast_none {s : Nat} {q : List QE} (h : qFindLast s q = none) : outstanding q s = 0 := by
  unfold qFindLast at h
  rw [Option.map_eq_none_iff, List.getLast?_eq_none_iff] at h
  rw [outstanding, List.countP_eq_length_filter, h]; rfl

theorem outstanding_take_drop (l : List QE) (k s : Nat) :
    outstanding (l.take k) s + outstanding (l.drop k) s = outstanding l s := by
  unfold outstanding
  rw [← List.countP_append, List.take_append_drop]

theorem cnt_map_plan (l : List QE) (s : Nat) : cnt (l.map (·.plan)) s = outstanding l s := by
  unfold cnt outstanding
  rw [List.countP_map]; rfl

/-! ### the work plan keyed by site id -/

theorem mem_dedupPlans {l : List QE} : ∀ x ∈ dedupPlans l, ∃ e ∈ l, e.plan = x := by
  unfold dedupPlans
  refine foldl_inv (P := fun acc => ∀ x ∈ acc, ∃ e ∈ l, e.plan = x) ?_ (by simp)
  intro acc e he hacc x hx
  split at hx
  · obtain ⟨a, ha, rfl⟩ := List.mem_map.mp hx
    split
    · exact ⟨e, he, rfl⟩
    · exact hacc a ha
  · rcases List.mem_append.mp hx with hx | hx
    · exact hacc x hx
    · exact ⟨e, he, (List.mem_singleton.mp hx).symm⟩

theorem cnt_dedupPlans (l : List QE) (s : Nat) : cnt (dedupPlans l) s ≤ outstanding l s := by
  unfold dedupPlans
  refine Nat.le_of_add_right_le (k := outstanding [] s) (foldl_loop
    (P := fun acc rest => cnt acc s + outstanding rest s ≤ outstanding l s) ?_ (Nat.le_of_eq (by simp)))
  intro acc e t h
  rw [outstanding_cons] at h
  refine Nat.le_trans ?_ h
  split
  · have : cnt (acc.map (fun a => if a.site = e.plan.site then e.plan else a)) s = cnt acc s := by
      unfold cnt
      rw [List.countP_map]
      exact List.countP_congr (by intro a _; simp only [Function.comp]; split <;> simp [*])
    omega
  · rw [cnt_append, cnt_cons, cnt_nil]; omega

theorem dedupPlans_of_distinct (l : List QE) (h : ∀ s, outstanding l s ≤ 1) :
    dedupPlans l = l.map (·.plan) := by
  unfold dedupPlans
  refine (List.append_nil _).symm.trans
    (foldl_loop (P := fun acc rest => acc ++ rest.map (·.plan) = l.map (·.plan)) ?_ rfl)
  intro acc e t hinv
  have h1 := h e.plan.site
  rw [← cnt_map_plan, ← hinv, cnt_append, List.map_cons, cnt_cons, if_pos rfl] at h1
  have : acc.any (fun a => a.site = e.plan.site) = false := by
    rw [List.any_eq_false]
    intro a ha hs
    have := cnt_pos_iff.mpr ⟨a, ha, of_decide_eq_true hs⟩
    omega
  simp [this, ← hinv]

/-! ### operations -/

@[simp] theorem updPlan_site (p : Params) (pl : Plan) (r : Rat) (dc : Int) :
    (updPlan p pl r dc).site = pl.site := by
  unfold updPlan; split <;> rfl

@[simp] theorem newPlan_site (p : Params) (r : Rec) (dc : Int) : (newPlan p r dc).site = r.site := rfl

@[simp] theorem updPlan_latest (p : Params) (pl : Plan) (r : Rat) (dc : Int) :
    (updPlan p pl r dc).latest = dc := by
  unfold updPlan; split <;> rfl

/-! #### what one released record does -/

/-- What `updMobile` and `updStationary` can do (`updMobile_step`, `updStationary_step`) with a
released record `r` of survey date `dc` on day `d`, each outcome with as much of the tests selecting
it as the invariants need; `count` stands for a detection that is neither pooled nor flagged, where at
most the counter of sub-threshold detections moves. -/
inductive RecStep (p : Params) (d dc : Int) (r : Rec) (st : St) : St → Prop
  | errPool {pool'} : st.m.inPool r.site = true → poolTake r.site st.m.pool = (none, pool') →
      RecStep p d dc r st { st with sh := { st.sh with err := true } }
  | poolInstant {pl pool'} : st.m.inPool r.site = true →
      poolTake r.site st.m.pool = (some pl, pool') → geInst p (updPlan p pl r.rate dc).rate = true →
      RecStep p d dc r st (flagSite 2 (updPlan p pl r.rate dc) .instant d d
        { st with m := { st.m with pool := pool', inPool := setB st.m.inPool r.site false } })
  | poolKeep {pl pool'} : st.m.inPool r.site = true → poolTake r.site st.m.pool = (some pl, pool') →
      (p.stationary = false → p.thr ≤ (updPlan p pl r.rate dc).rate) →
      RecStep p d dc r st { st with m := { st.m with pool := poolInsert (updPlan p pl r.rate dc) pool' } }
  | poolDrop {pl pool'} : st.m.inPool r.site = true → poolTake r.site st.m.pool = (some pl, pool') →
      RecStep p d dc r st
        { st with m := { st.m with pool := pool', inPool := setB st.m.inPool r.site false } }
  | errQueue : st.sh.inQueue r.site = true → qFindLast r.site st.sh.queue = none →
      RecStep p d dc r st { st with sh := { st.sh with err := true } }
  | requeue {pl} (cls : Nat) : st.sh.inQueue r.site = true → qFindLast r.site st.sh.queue = some pl →
      RecStep p d dc r st { st with
        sh := enqueue cls (updPlan p pl r.rate dc) { st.sh with queue := qRemove r.site st.sh.queue } }
  | withdraw {pl} : st.sh.inQueue r.site = true → qFindLast r.site st.sh.queue = some pl →
      RecStep p d dc r st { st with sh := { st.sh with
        queue := qRemove r.site st.sh.queue, inQueue := setB st.sh.inQueue r.site false,
        dropped := bump st.sh.dropped r.site } }
  | newInstant : st.m.inPool r.site = false → st.sh.inQueue r.site = false →
      geInst p (newPlan p r dc).rate = true →
      RecStep p d dc r st (flagSite 2 (newPlan p r dc) .instant d d st)
  | newPool : st.m.inPool r.site = false → st.sh.inQueue r.site = false →
      (p.stationary = false → p.thr ≤ (newPlan p r dc).rate) →
      RecStep p d dc r st { st with m := { st.m with
        pool := poolInsert (newPlan p r dc) st.m.pool, inPool := setB st.m.inPool r.site true } }
  | count (c : Nat) : RecStep p d dc r st { st with m := { st.m with count := c } }

theorem updMobile_step (p : Params) (d dc : Int) (r : Rec) (st : St) (hmob : p.stationary = false) :
    RecStep p d dc r st (updMobile p d dc r st) := by
  have hrate : (newPlan p r dc).rate = r.rate := by simp [newPlan, hmob]
  unfold updMobile
  by_cases hin : st.m.inPool r.site = true
  · rw [if_pos hin]
    rcases hpt : poolTake r.site st.m.pool with ⟨_ | pl, pool'⟩
    · exact .errPool hin hpt
    · simp only []
      by_cases hi : geInst p (updPlan p pl r.rate dc).rate = true
      · rw [if_pos hi]; exact .poolInstant hin hpt hi
      · rw [if_neg hi]
        by_cases hge : p.thr ≤ (updPlan p pl r.rate dc).rate
        · rw [if_pos hge]; exact .poolKeep hin hpt fun _ => hge
        · rw [if_neg hge]; exact .poolDrop hin hpt
  · rw [if_neg hin]
    by_cases hiq : st.sh.inQueue r.site = true
    · rw [if_pos hiq]
      cases hfl : qFindLast r.site st.sh.queue with
      | none => exact .errQueue hiq hfl
      | some pl =>
        simp only []
        by_cases hi : geInst p (updPlan p pl r.rate dc).rate = true
        · rw [if_pos hi]; exact .requeue 2 hiq hfl
        · rw [if_neg hi]
          by_cases hge : p.thr ≤ (updPlan p pl r.rate dc).rate
          · rw [if_pos hge]; exact .requeue 3 hiq hfl
          · rw [if_neg hge]; exact .withdraw hiq hfl
    · rw [if_neg hiq]
      have hin' : st.m.inPool r.site = false := by simpa using hin
      have hiq' : st.sh.inQueue r.site = false := by simpa using hiq
      by_cases hi : geInst p r.rate = true
      · rw [if_pos hi]; exact .newInstant hin' hiq' (hrate ▸ hi)
      · rw [if_neg hi]
        by_cases hge : r.rate ≠ 0 ∧ p.thr ≤ r.rate
        · rw [if_pos hge]; exact .newPool hin' hiq' fun _ => hrate ▸ hge.2
        · rw [if_neg hge]
          by_cases hpos : 0 < r.rate
          · rw [if_pos hpos]; exact .count _
          · rw [if_neg hpos]; exact .count st.m.count

theorem updStationary_step (p : Params) (d dc : Int) (r : Rec) (st : St) (hstat : p.stationary = true) :
    RecStep p d dc r st (updStationary p d dc r st) := by
  have hv : ∀ x, p.stationary = false → p.thr ≤ x := fun _ h => by simp [hstat] at h
  unfold updStationary
  by_cases hin : st.m.inPool r.site = true
  · rw [if_pos hin]
    rcases hpt : poolTake r.site st.m.pool with ⟨_ | pl, pool'⟩
    · exact .errPool hin hpt
    · simp only []
      by_cases hi : geInst p (updPlan p pl r.rate dc).rate = true
      · rw [if_pos hi]; exact .poolInstant hin hpt hi
      · rw [if_neg hi]; exact .poolKeep hin hpt (hv _)
  · rw [if_neg hin]
    by_cases hiq : st.sh.inQueue r.site = true
    · rw [if_pos hiq]
      cases hfl : qFindLast r.site st.sh.queue with
      | none => exact .errQueue hiq hfl
      | some pl =>
        simp only []
        by_cases hi : geInst p (updPlan p pl r.rate dc).rate = true
        · rw [if_pos hi]; exact .requeue 2 hiq hfl
        · rw [if_neg hi]; exact .requeue 3 hiq hfl
    · rw [if_neg hiq]
      exact .newPool (by simpa using hin) (by simpa using hiq) (hv _)

theorem processRec_step (p : Params) (d dc : Int) (st : St) (r : Rec) :
    processRec p d dc st r = st ∨ st.sh.latestTag r.site ≤ dc ∧
      RecStep p d dc r { st with m := { st.m with released := st.m.released ++ [r] } }
        (processRec p d dc st r) := by
  unfold processRec
  split
  · next hfresh =>
    refine .inr ⟨hfresh, ?_⟩
    split
    · next hs => exact updStationary_step _ _ _ _ _ hs
    · next hs => exact updMobile_step _ _ _ _ _ (by simpa using hs)
  · exact .inl rfl

theorem RecStep.frame {p : Params} {d dc : Int} {r : Rec} {st st' : St} (h : RecStep p d dc r st st') :
    st'.m.today = st.m.today ∧ st'.m.nflags = st.m.nflags ∧ st'.sh.latestTag = st.sh.latestTag ∧
    st'.sh.visits = st.sh.visits := by
  cases h <;> exact ⟨rfl, rfl, rfl, rfl⟩

theorem processRec_frame (p : Params) (d dc : Int) (st : St) (r : Rec) :
    (processRec p d dc st r).m.today = st.m.today ∧ (processRec p d dc st r).m.nflags = st.m.nflags ∧
    (processRec p d dc st r).sh.latestTag = st.sh.latestTag ∧
    (processRec p d dc st r).sh.visits = st.sh.visits := by
  rcases processRec_step p d dc st r with e | ⟨_, hs⟩
  · rw [e]; exact ⟨rfl, rfl, rfl, rfl⟩
  · exact hs.frame

/-! #### the daily decision and the daily update -/

/-- the state from which `decideNow` runs its flagging loop (`decideNow_eq`) -/
def decideStart (p : Params) (st : St) : St :=
  let rej := st.m.pool.drop (keepCount p st.m.pool.length st.m.count)
  { st with m := { st.m with pool := [], count := 0, firstCand := none,
                             inPool := rej.foldl (fun f pl => setB f pl.site false) st.m.inPool } }

theorem decideNow_eq (p : Params) (d first : Int) (st : St) : decideNow p d first st =
    (st.m.pool.take (keepCount p st.m.pool.length st.m.count)).foldl (flagOne p d first)
      (decideStart p st) := rfl

theorem updateCandidates_cases (p : Params) (d : Int) (st : St) :
    (∃ first, first + p.delay ≤ d ∧ (∀ fc, st.m.firstCand = some fc → first = fc) ∧
      updateCandidates p d st = decideNow p d first st) ∨
    ∃ fc, (fc = st.m.firstCand ∨ fc = some d) ∧
      updateCandidates p d st = { st with m := { st.m with firstCand := fc } } := by
  unfold updateCandidates
  split
  · next hn =>
    split
    · exact .inr ⟨_, .inl rfl, rfl⟩
    · split
      · exact .inl ⟨d, by omega, by simp [hn], rfl⟩
      · exact .inr ⟨_, .inr rfl, rfl⟩
  · next fc hfc =>
    split
    · exact .inl ⟨fc, by omega, by simp [hfc], rfl⟩
    · exact .inr ⟨_, .inl rfl, rfl⟩

theorem dailyUpdate_ind {P Q : St → Prop} {p : Params} {d : Int} {st : St}
    (hrec : ∀ s r, r.date = d - p.rd → P s → P (processRec p d (d - p.rd) s r))
    (hdec : ∀ first s, first + p.delay ≤ d → P s → Q (decideNow p d first s))
    (hfc : ∀ s fc, fc = s.m.firstCand ∨ fc = some d → P s →
      Q { s with m := { s.m with firstCand := fc } })
    (h0 : P { st with m := { st.m with records := st.m.records.filter (fun r => r.date ≠ d - p.rd),
                                       today := d, nflags := 0 } }) :
    Q (dailyUpdate p d st) := by
  suffices h : ∀ mid, P mid → Q (updateCandidates p d mid) from
    h _ (foldl_inv (fun s r hr => hrec s r (by simpa using (List.mem_filter.mp hr).2)) h0)
  intro mid hmid
  rcases updateCandidates_cases p d mid with ⟨first, hdue, _, e⟩ | ⟨fc, hfc', e⟩ <;> rw [e]
  · exact hdec first mid hdue hmid
  · exact hfc mid fc hfc' hmid

theorem dailyUpdate_inv {P : St → Prop} {p : Params} {d : Int} {st : St}
    (hrec : ∀ s r, P s → P (processRec p d (d - p.rd) s r))
    (hflag : ∀ first s pl, P s → P (flagOne p d first s pl))
    (hstart : ∀ s, P s → P (decideStart p s))
    (hfc : ∀ s fc, P s → P { s with m := { s.m with firstCand := fc } })
    (h0 : P { st with m := { st.m with records := st.m.records.filter (fun r => r.date ≠ d - p.rd),
                                       today := d, nflags := 0 } }) :
    P (dailyUpdate p d st) :=
  dailyUpdate_ind (fun s r _ => hrec s r)
    (fun first s _ h => foldl_inv (fun s pl _ => hflag first s pl) (hstart s h)) (fun s fc _ => hfc s fc) h0

theorem dailyUpdate_frame (p : Params) (d : Int) (st : St) :
    (dailyUpdate p d st).m.today = d ∧ (dailyUpdate p d st).sh.latestTag = st.sh.latestTag := by
  refine dailyUpdate_inv (P := fun s => s.m.today = d ∧ s.sh.latestTag = st.sh.latestTag)
    (fun s r h => ⟨(processRec_frame ..).1.trans h.1, (processRec_frame ..).2.2.1.trans h.2⟩)
    (fun first s pl h => ?_) (fun _ h => h) (fun _ _ h => h) ⟨rfl, rfl⟩
  unfold flagOne
  split <;> exact h

/-! ### invariant A: structure -/

structure InvA (st : St) : Prop where
  poolCnt : ∀ s, cnt st.m.pool s = b2n (st.m.inPool s)
  queueCnt : ∀ s, outstanding st.sh.queue s = b2n (st.sh.inQueue s)
  excl : ∀ s, st.m.inPool s = true → st.sh.inQueue s = false
  counters : ∀ s, st.sh.flags s = st.sh.done s + st.sh.dropped s + b2n (st.sh.inQueue s)
  noErr : st.sh.err = false

theorem invA_init : InvA {} := by
  constructor <;> simp [cnt, outstanding, b2n]

theorem InvA.of_eq {st st' : St} (h : InvA st) (h1 : st'.m.pool = st.m.pool)
    (h2 : st'.m.inPool = st.m.inPool) (h3 : st'.sh = st.sh) : InvA st' := by
  obtain ⟨⟨pool, inPool⟩, sh⟩ := st'
  simp only at h1 h2 h3
  subst h1 h2 h3
  exact ⟨h.poolCnt, h.queueCnt, h.excl, h.counters, h.noErr⟩

theorem InvA.outstanding_le {st : St} (h : InvA st) (s : Nat) : outstanding st.sh.queue s ≤ 1 :=
  h.queueCnt s ▸ b2n_le _

theorem InvA.flagged_of_mem {st : St} {e : QE} (h : InvA st) (he : e ∈ st.sh.queue) :
    st.sh.inQueue e.plan.site = true :=
  of_pos_eq_b2n (h.queueCnt e.plan.site) (outstanding_pos_iff.mpr ⟨e, he, rfl⟩)

theorem flagSite_shared {cls : Nat} {pl : Plan} {route : Route} {d first : Int} {st : St}
    (hq : ∀ s, outstanding st.sh.queue s = b2n (st.sh.inQueue s))
    (hc : ∀ s, st.sh.flags s = st.sh.done s + st.sh.dropped s + b2n (st.sh.inQueue s))
    (h2 : st.sh.inQueue pl.site = false) (s : Nat) :
    let st' := flagSite cls pl route d first st
    outstanding st'.sh.queue s = b2n (st'.sh.inQueue s) ∧
    st'.sh.flags s = st'.sh.done s + st'.sh.dropped s + b2n (st'.sh.inQueue s) := by
  have := hq s
  have := hc s
  simp only [flagSite, enqueue, outstanding_qInsert, setB_apply, bump_apply]
  split <;> simp_all <;> omega

theorem flagSite_invA {cls : Nat} {pl : Plan} {route : Route} {d first : Int} {st : St} (h : InvA st)
    (h1 : st.m.inPool pl.site = false) (h2 : st.sh.inQueue pl.site = false) :
    InvA (flagSite cls pl route d first st) := by
  refine ⟨h.poolCnt, fun s => (flagSite_shared h.queueCnt h.counters h2 s).1, fun s hs => ?_,
    fun s => (flagSite_shared h.queueCnt h.counters h2 s).2, h.noErr⟩
  simp only [flagSite, setB_apply]
  split
  · simp_all [flagSite]
  · exact h.excl s hs

theorem unpool_invA {s : Nat} {pl : Plan} {pool' : List Plan} {st : St} (h : InvA st)
    (hin : st.m.inPool s = true) (hpt : poolTake s st.m.pool = (some pl, pool')) :
    InvA { st with m := { st.m with pool := pool', inPool := setB st.m.inPool s false } } := by
  refine ⟨fun t => ?_, h.queueCnt, fun t ht => ?_, h.counters, h.noErr⟩
  · have := cnt_of_poolTake hpt t
    have := h.poolCnt t
    simp only [setB_apply]
    split <;> simp_all <;> omega
  · simp only [setB_apply] at ht
    split at ht
    · cases ht
    · exact h.excl t ht

theorem RecStep.invA {p : Params} {d dc : Int} {r : Rec} {st st' : St} (h : RecStep p d dc r st st')
    (hA : InvA st) : InvA st' := by
  cases h with
  | errPool hin hpt => have := hA.poolCnt r.site; simp [poolTake_none hpt, hin] at this
  | poolInstant hin hpt _ =>
    have hs := (poolTake_some hpt).1
    exact flagSite_invA (unpool_invA hA hin hpt) (by simp [hs, setB_apply])
      (by simpa [hs] using hA.excl _ hin)
  | poolKeep hin hpt _ =>
    refine ⟨fun s => ?_, hA.queueCnt, hA.excl, hA.counters, hA.noErr⟩
    simp only [cnt_poolInsert, updPlan_site, (poolTake_some hpt).1, ← cnt_of_poolTake hpt]
    exact hA.poolCnt s
  | poolDrop hin hpt => exact unpool_invA hA hin hpt
  | errQueue hiq hfl => have := hA.queueCnt r.site; simp [qFindLast_none hfl, hiq] at this
  | requeue cls hiq hfl =>
    obtain ⟨e, _, rfl, hs⟩ := qFindLast_some hfl
    refine ⟨hA.poolCnt, fun s => ?_, hA.excl, hA.counters, hA.noErr⟩
    have := hA.queueCnt s
    simp only [enqueue, outstanding_qInsert, outstanding_qRemove, updPlan_site, hs]
    split
    · next e => rw [e, hiq]; rfl
    · omega
  | withdraw hiq hfl =>
    refine ⟨hA.poolCnt, fun s => ?_, fun s hs => ?_, fun s => ?_, hA.noErr⟩
    · have := hA.queueCnt s
      simp only [outstanding_qRemove, setB_apply]
      split
      · rfl
      · exact this
    · simp only [setB_apply]
      split
      · rfl
      · exact hA.excl s hs
    · have := hA.counters s
      simp only [setB_apply, bump_apply]
      split
      · next e => subst e; rw [hiq] at this; simp only [b2n_true, b2n_false] at this ⊢; omega
      · exact this
  | newInstant hin hiq _ => exact flagSite_invA hA hin hiq
  | newPool hin hiq _ =>
    refine ⟨fun s => ?_, hA.queueCnt, fun s hs => ?_, hA.counters, hA.noErr⟩
    · have := hA.poolCnt s
      simp only [cnt_poolInsert, newPlan_site, setB_apply]
      split <;> simp_all
    · simp only [setB_apply] at hs
      split at hs
      · next e => exact e ▸ hiq
      · exact hA.excl s hs
  | count c => exact hA.of_eq rfl rfl rfl

theorem processRec_invA (p : Params) (d dc : Int) (st : St) (r : Rec) (h : InvA st) :
    InvA (processRec p d dc st r) := by
  rcases processRec_step p d dc st r with e | ⟨_, hs⟩
  · rwa [e]
  · exact hs.invA (h.of_eq rfl rfl rfl)

/-- loop invariant of the flagging loop: `cs` are the kept candidates still to be handled -/
structure LoopA (st : St) (cs : List Plan) : Prop where
  poolCnt : ∀ s, cnt st.m.pool s + cnt cs s = b2n (st.m.inPool s)
  queueCnt : ∀ s, outstanding st.sh.queue s = b2n (st.sh.inQueue s)
  excl : ∀ s, st.m.inPool s = true → st.sh.inQueue s = false
  counters : ∀ s, st.sh.flags s = st.sh.done s + st.sh.dropped s + b2n (st.sh.inQueue s)
  noErr : st.sh.err = false

theorem flagOne_loopA (p : Params) (d first : Int) (st : St) (pl : Plan) (cs : List Plan)
    (h : LoopA st (pl :: cs)) : LoopA (flagOne p d first st pl) cs := by
  obtain ⟨hp, hq, hx, hc, he⟩ := h
  simp only [cnt_cons] at hp
  have hin : st.m.inPool pl.site = true := of_pos_eq_b2n (hp pl.site) (by rw [if_pos rfl]; omega)
  unfold flagOne
  split
  · refine ⟨fun s => ?_, hq, hx, hc, he⟩
    rw [cnt_poolInsert, ← hp s]; omega
  · have hsh := fun s => flagSite_shared (cls := 3) (pl := pl) (route := .pool) (d := d) (first := first)
      (st := { st with m := { st.m with inPool := setB st.m.inPool pl.site false,
                                         nflags := st.m.nflags + 1 } }) hq hc (hx _ hin) s
    refine ⟨fun s => ?_, fun s => (hsh s).1, fun s hs => ?_, fun s => (hsh s).2, he⟩
    · have := hp s
      simp only [flagSite, setB_apply]
      split
      · next e => subst e; rw [if_pos rfl, hin] at this; simp only [b2n_true, b2n_false] at this ⊢; omega
      · next e => rwa [if_neg e] at this
    · simp only [flagSite, setB_apply] at hs ⊢
      split at hs
      · cases hs
      · next e => rw [if_neg e]; exact hx s hs

theorem decideNow_invA (p : Params) (d first : Int) (st : St) (h : InvA st) :
    InvA (decideNow p d first st) := by
  rw [decideNow_eq]
  have hl : LoopA (decideStart p st) (st.m.pool.take (keepCount p st.m.pool.length st.m.count)) := by
    refine ⟨fun s => ?_, h.queueCnt, fun s hs => ?_, h.counters, h.noErr⟩
    · have ht := cnt_take_drop st.m.pool (keepCount p st.m.pool.length st.m.count) s
      have hp := h.poolCnt s
      have := b2n_le (st.m.inPool s)
      simp only [decideStart, cnt_nil, unflag_spec]
      split
      · omega
      · rw [b2n_false]
        omega
    · simp only [decideStart, unflag_spec] at hs
      split at hs
      · exact h.excl s hs
      · cases hs
  have := foldl_loop (P := LoopA) (flagOne_loopA p d first) hl
  exact ⟨by simpa using this.poolCnt, this.queueCnt, this.excl, this.counters, this.noErr⟩

theorem dailyUpdate_invA (p : Params) (d : Int) (st : St) (h : InvA st) :
    InvA (dailyUpdate p d st) :=
  dailyUpdate_ind (fun s r _ => processRec_invA p d _ s r) (fun first s _ => decideNow_invA p d first s)
    (fun _ _ _ h => h.of_eq rfl rfl rfl) (h.of_eq rfl rfl rfl)

/-! #### the follow-up day -/

structure LoopQ (inPool : Nat → Bool) (sh : Shared) (cs : List Plan) : Prop where
  queueCnt : ∀ s, outstanding sh.queue s + cnt cs s = b2n (sh.inQueue s)
  excl : ∀ s, inPool s = true → sh.inQueue s = false
  counters : ∀ s, sh.flags s = sh.done s + sh.dropped s + b2n (sh.inQueue s)
  noErr : sh.err = false

theorem applyOutcome_loopQ (inPool : Nat → Bool) (d : Int) (outs : Nat → Outcome) (sh : Shared)
    (pl : Plan) (cs : List Plan) (h : LoopQ inPool sh (pl :: cs)) :
    LoopQ inPool (applyOutcome d outs sh pl) cs := by
  obtain ⟨hq, hx, hc, he⟩ := h
  simp only [cnt_cons] at hq
  have hin : sh.inQueue pl.site = true := of_pos_eq_b2n (hq pl.site) (by rw [if_pos rfl]; omega)
  have hq' : ∀ (e : QE), e.plan.site = pl.site →
      ∀ s, outstanding (qInsert e sh.queue) s + cnt cs s = b2n (sh.inQueue s) := by
    intro e hes s
    rw [outstanding_qInsert, hes, ← hq s]; omega
  unfold applyOutcome
  simp only []
  split
  · refine ⟨fun s => ?_, fun s hs => ?_, fun s => ?_, he⟩
    · have := hq s
      simp only [setB_apply]
      split
      · next e => subst e; rw [if_pos rfl, hin] at this; simp only [b2n_true, b2n_false] at this ⊢; omega
      · next e => rwa [if_neg e] at this
    · simp only [setB_apply]
      split
      · rfl
      · exact hx s hs
    · have := hc s
      simp only [setB_apply, bump_apply]
      split
      · next e => subst e; rw [hin] at this; simp only [b2n_true, b2n_false] at this ⊢; omega
      · exact this
  · exact ⟨hq' _ rfl, hx, hc, he⟩
  · exact ⟨hq' _ rfl, hx, hc, he⟩

theorem planned_eq (cap : Nat) (sh : Shared) (hq : ∀ s, outstanding sh.queue s ≤ 1) :
    planned cap sh = (sh.queue.take cap).map (·.plan) := by
  refine dedupPlans_of_distinct _ fun s => ?_
  have := outstanding_take_drop sh.queue cap s
  have := hq s
  omega

theorem followUpDay_invA (cap : Nat) (d : Int) (outs : Nat → Outcome) (st : St) (h : InvA st) :
    InvA { st with sh := followUpDay cap d outs st.sh } := by
  unfold followUpDay
  rw [planned_eq cap st.sh h.outstanding_le]
  have := foldl_loop (P := LoopQ st.m.inPool) (applyOutcome_loopQ st.m.inPool d outs)
    (l := (st.sh.queue.take cap).map (·.plan)) (s := { st.sh with queue := st.sh.queue.drop cap })
    ⟨fun s => ?_, h.excl, h.counters, h.noErr⟩
  · exact ⟨h.poolCnt, by simpa using this.queueCnt, this.excl, this.counters, this.noErr⟩
  · rw [cnt_map_plan, ← h.queueCnt s, ← outstanding_take_drop st.sh.queue cap s]; exact Nat.add_comm _ _

theorem step1_invA (p : Params) (cap : Nat) (st : St) (op : Op1) (h : InvA st) :
    InvA (step1 p cap st op) := by
  cases op with
  | screen s r d => exact h.of_eq rfl rfl rfl
  | update d => exact dailyUpdate_invA p d st h
  | fuDay d outs => exact followUpDay_invA cap d outs st h
  | tag s d => exact ⟨h.poolCnt, h.queueCnt, h.excl, h.counters, h.noErr⟩

theorem run1_invA (p : Params) (cap : Nat) (ops : List Op1) : InvA (run1 p cap ops) :=
  foldl_inv (fun st op _ => step1_invA p cap st op) invA_init

/-! ### invariant B: the pool is sorted by decreasing rate -/

@[simp] theorem flagSite_pool (cls : Nat) (pl : Plan) (route : Route) (d first : Int) (st : St) :
    (flagSite cls pl route d first st).m.pool = st.m.pool := rfl

theorem RecStep.sorted {p : Params} {d dc : Int} {r : Rec} {st st' : St} (h : RecStep p d dc r st st')
    (hs : Sorted st.m.pool) : Sorted st'.m.pool := by
  cases h with
  | poolInstant _ hpt _ => exact List.Pairwise.sublist (poolTake_some hpt).2.2 hs
  | poolDrop _ hpt => exact List.Pairwise.sublist (poolTake_some hpt).2.2 hs
  | poolKeep _ hpt _ =>
    exact sorted_poolInsert _ _ (List.Pairwise.sublist (poolTake_some hpt).2.2 hs)
  | newPool => exact sorted_poolInsert _ _ hs
  | _ => exact hs

theorem processRec_sorted (p : Params) (d dc : Int) (st : St) (r : Rec) (h : Sorted st.m.pool) :
    Sorted (processRec p d dc st r).m.pool := by
  rcases processRec_step p d dc st r with e | ⟨_, hs⟩
  · rwa [e]
  · exact hs.sorted h

theorem flagOne_sorted (p : Params) (d first : Int) (st : St) (pl : Plan) (h : Sorted st.m.pool) :
    Sorted (flagOne p d first st pl).m.pool := by
  unfold flagOne
  split
  · exact sorted_poolInsert _ _ h
  · exact h

theorem dailyUpdate_sorted (p : Params) (d : Int) (st : St) (h : Sorted st.m.pool) :
    Sorted (dailyUpdate p d st).m.pool :=
  dailyUpdate_inv (P := fun s => Sorted s.m.pool) (fun s r => processRec_sorted p d _ s r)
    (fun first s pl => flagOne_sorted p d first s pl) (fun _ _ => List.Pairwise.nil) (fun _ _ h => h) h

theorem step1_sorted (p : Params) (cap : Nat) (st : St) (op : Op1) (h : Sorted st.m.pool) :
    Sorted (step1 p cap st op).m.pool := by
  cases op with
  | update d => exact dailyUpdate_sorted p d st h
  | _ => exact h

theorem run1_sorted (p : Params) (cap : Nat) (ops : List Op1) : Sorted (run1 p cap ops).m.pool :=
  foldl_inv (P := fun s => Sorted s.m.pool) (fun st op _ => step1_sorted p cap st op)
    (show Sorted ({} : St).m.pool from List.Pairwise.nil)

/-! ### invariant C: provenance, dates, routing -/

/-- the rate a decision looks at is the redundancy-filtered rate of the detections behind it:
mobile `filt filter rates` (recent / max / average); stationary the rolling means over the small /
large window — except for a planner that has seen one detection only, which starts at 0 -/
def RateOK (p : Params) (rate rateLong : Rat) (rates : List Rat) : Prop :=
  if p.stationary then
    (rates.length = 1 ∧ rate = 0 ∧ rateLong = 0) ∨
    (2 ≤ rates.length ∧ rate = meanLast p.sw rates ∧ rateLong = meanLast p.lw rates)
  else rate = filt p.filter rates

def PlanOK (p : Params) (rel : List Rec) (today : Int) (pl : Plan) : Prop :=
  pl.rates ≠ [] ∧ (∀ r ∈ pl.rates, ∃ rc ∈ rel, rc.site = pl.site ∧ rc.rate = r) ∧
  pl.latest + p.rd ≤ today ∧ RateOK p pl.rate pl.rateLong pl.rates ∧ (pl.sw = p.sw ∧ pl.lw = p.lw)

theorem filt_singleton (f : Filter) (x : Rat) : filt f [x] = x := by
  cases f
  · simp [filt]
  · simp [filt, maxR]
  · simp [filt, sumR]; grind

def RouteOK (p : Params) (f : FlagEv) : Prop :=
  match f.route with
  | .instant => (∃ t, p.inst = some t ∧ t ≤ f.rate) ∧ f.day = f.recDate + p.rd ∧ f.first = f.day ∧
      f.tagAtFlag ≤ f.recDate
  | .pool => f.first + p.delay ≤ f.day ∧
      (if p.stationary then (p.sthr ≤ f.rate ∨ (p.lthr ≠ 0 ∧ f.rateLong ≠ 0 ∧ p.lthr ≤ f.rateLong))
       else p.thr ≤ f.rate)

def GoodFlag (p : Params) (rel : List Rec) (today : Int) (f : FlagEv) : Prop :=
  f.recDate + p.rd ≤ f.day ∧ f.day ≤ today ∧ f.rates ≠ [] ∧
  (∀ r ∈ f.rates, ∃ rc ∈ rel, rc.site = f.site ∧ rc.rate = r ∧ rc.date + p.rd ≤ f.day) ∧
  RouteOK p f ∧ RateOK p f.rate f.rateLong f.rates

theorem RouteOK.instant {p : Params} {f : FlagEv} (h : RouteOK p f) (hr : f.route = .instant) :
    (∃ t, p.inst = some t ∧ t ≤ f.rate) ∧ f.day = f.recDate + p.rd ∧ f.first = f.day ∧
    f.tagAtFlag ≤ f.recDate := by
  unfold RouteOK at h; rwa [hr] at h

theorem RouteOK.pool {p : Params} {f : FlagEv} (h : RouteOK p f) (hr : f.route = .pool) :
    f.first + p.delay ≤ f.day ∧
    (if p.stationary then (p.sthr ≤ f.rate ∨ (p.lthr ≠ 0 ∧ f.rateLong ≠ 0 ∧ p.lthr ≤ f.rateLong))
     else p.thr ≤ f.rate) := by
  unfold RouteOK at h; rwa [hr] at h

theorem GoodFlag.fresh {p : Params} {rel : List Rec} {today : Int} {f : FlagEv} (h : GoodFlag p rel today f)
    (hr : f.route = .instant) : f.tagAtFlag ≤ f.recDate :=
  (h.2.2.2.2.1.instant hr).2.2.2

/-- `S` guards the clause about the shared queue: `True` for a single screening method; with several
methods on one follow-up method (`S = False`) the queue also holds plans of the other methods -/
structure InvC (S : Prop) (p : Params) (st : St) : Prop where
  poolOK : ∀ pl ∈ st.m.pool, PlanOK p st.m.released st.m.today pl
  queueOK : S → ∀ e ∈ st.sh.queue, PlanOK p st.m.released st.m.today e.plan
  poolThr : p.stationary = false → ∀ pl ∈ st.m.pool, p.thr ≤ pl.rate
  evsOK : ∀ f ∈ st.m.evs, GoodFlag p st.m.released st.m.today f
  relOK : ∀ rc ∈ st.m.released, rc.date + p.rd ≤ st.m.today
  firstOK : ∀ fc, st.m.firstCand = some fc → fc ≤ st.m.today

theorem invC_init (S : Prop) (p : Params) : InvC S p {} := by
  constructor <;> simp

theorem planOK_mono {p : Params} {rel rel' : List Rec} {t t' : Int} {pl : Plan}
    (h : PlanOK p rel t pl) (hr : ∀ x ∈ rel, x ∈ rel') (ht : t ≤ t') : PlanOK p rel' t' pl := by
  obtain ⟨a, b, c, e⟩ := h
  refine ⟨a, fun r hr' => ?_, by omega, e⟩
  obtain ⟨rc, h1, h2⟩ := b r hr'
  exact ⟨rc, hr rc h1, h2⟩

theorem goodFlag_mono {p : Params} {rel rel' : List Rec} {t t' : Int} {f : FlagEv}
    (h : GoodFlag p rel t f) (hr : ∀ x ∈ rel, x ∈ rel') (ht : t ≤ t') : GoodFlag p rel' t' f := by
  obtain ⟨a, b, c, d, e⟩ := h
  refine ⟨a, by omega, c, fun r hr' => ?_, e⟩
  obtain ⟨rc, h1, h2⟩ := d r hr'
  exact ⟨rc, hr rc h1, h2⟩

theorem InvC.mono {S : Prop} {p : Params} {st st' : St} (h : InvC S p st)
    (hpool : st'.m.pool = st.m.pool) (hq : st'.sh.queue = st.sh.queue) (hevs : st'.m.evs = st.m.evs)
    (hfc : st'.m.firstCand = st.m.firstCand) (hrel : ∀ x ∈ st.m.released, x ∈ st'.m.released)
    (ht : st.m.today ≤ st'.m.today) (hnew : ∀ rc ∈ st'.m.released, rc.date + p.rd ≤ st'.m.today) :
    InvC S p st' := by
  refine ⟨fun pl hpl => ?_, fun hS e he => ?_, fun hs pl hpl => ?_, fun f hf => ?_, hnew,
    fun fc hfc' => ?_⟩
  · exact planOK_mono (h.poolOK pl (hpool ▸ hpl)) hrel ht
  · exact planOK_mono (h.queueOK hS e (hq ▸ he)) hrel ht
  · exact h.poolThr hs pl (hpool ▸ hpl)
  · exact goodFlag_mono (h.evsOK f (hevs ▸ hf)) hrel ht
  · exact Int.le_trans (h.firstOK fc (hfc ▸ hfc')) ht

theorem InvC.setPool {S : Prop} {p : Params} {st : St} (h : InvC S p st) {pool' : List Plan}
    (f : Nat → Bool) (hok : ∀ x ∈ pool', PlanOK p st.m.released st.m.today x)
    (hthr : p.stationary = false → ∀ x ∈ pool', p.thr ≤ x.rate) :
    InvC S p { st with m := { st.m with pool := pool', inPool := f } } :=
  ⟨hok, h.queueOK, hthr, h.evsOK, h.relOK, h.firstOK⟩

theorem InvC.setShared {S : Prop} {p : Params} {st : St} (h : InvC S p st) (sh' : Shared)
    (hq : S → ∀ e ∈ sh'.queue, PlanOK p st.m.released st.m.today e.plan) :
    InvC S p { st with sh := sh' } :=
  ⟨h.poolOK, hq, h.poolThr, h.evsOK, h.relOK, h.firstOK⟩

theorem planOK_upd {p : Params} {rel : List Rec} {today dc : Int} {pl : Plan} {r : Rec}
    (h : PlanOK p rel today pl) (hr : r ∈ rel) (hs : pl.site = r.site) (hd : dc + p.rd ≤ today) :
    PlanOK p rel today (updPlan p pl r.rate dc) := by
  obtain ⟨a, b, c, e, w⟩ := h
  have hlen : 1 ≤ pl.rates.length := List.length_pos_iff.mpr a
  have hmem : ∀ x ∈ pl.rates ++ [r.rate], ∃ rc ∈ rel, rc.site = pl.site ∧ rc.rate = x := by
    intro x hx
    rcases List.mem_append.mp hx with hx | hx
    · exact b x hx
    · exact ⟨r, hr, hs.symm, (List.mem_singleton.mp hx).symm⟩
  unfold updPlan PlanOK RateOK
  split
  · refine ⟨by simp, hmem, hd, ?_, w⟩
    simp only [List.length_append, List.length_cons, List.length_nil]
    exact .inr ⟨by omega, by rw [w.1], by rw [w.2]⟩
  · exact ⟨by simp, hmem, hd, by simp, w⟩

theorem planOK_new {p : Params} {rel : List Rec} {today dc : Int} {r : Rec}
    (hr : r ∈ rel) (hd : dc + p.rd ≤ today) : PlanOK p rel today (newPlan p r dc) := by
  refine ⟨by simp [newPlan], fun x hx => ?_, hd, ?_, ⟨rfl, rfl⟩⟩
  · exact ⟨r, hr, rfl, (List.mem_singleton.mp hx).symm⟩
  · unfold RateOK newPlan
    cases hst : p.stationary <;> simp [filt_singleton]

theorem flagSite_invC {S : Prop} {p : Params} {cls : Nat} {pl : Plan} {route : Route} {d first : Int}
    {st : St} (h : InvC S p st) (hpl : PlanOK p st.m.released st.m.today pl) (htoday : st.m.today = d)
    (hroute : RouteOK p (mkEv pl route d first (st.sh.latestTag pl.site))) :
    InvC S p (flagSite cls pl route d first st) := by
  refine ⟨h.poolOK, fun hS e he => ?_, h.poolThr, fun f hf => ?_, h.relOK, h.firstOK⟩
  · rcases mem_qInsert.mp he with rfl | he
    · exact hpl
    · exact h.queueOK hS e he
  · rcases List.mem_append.mp hf with hf | hf
    · exact h.evsOK f hf
    · obtain ⟨a, b, c, e, _⟩ := hpl
      rw [List.mem_singleton.mp hf]
      refine ⟨by simp only [mkEv]; omega, Int.le_of_eq htoday.symm, a, fun r hr => ?_, hroute, e⟩
      obtain ⟨rc, h1, h2⟩ := b r hr
      exact ⟨rc, h1, h2.1, h2.2, htoday ▸ h.relOK rc h1⟩

theorem routeOK_instant {p : Params} {pl : Plan} {d tag : Int} (hi : geInst p pl.rate = true)
    (hd : pl.latest + p.rd = d) (ht : tag ≤ pl.latest) : RouteOK p (mkEv pl .instant d d tag) := by
  refine ⟨?_, hd.symm, rfl, ht⟩
  unfold geInst at hi
  split at hi
  · cases hi
  · next t hinst => exact ⟨t, hinst, of_decide_eq_true hi⟩

theorem RecStep.invC {S : Prop} {p : Params} {d dc : Int} {r : Rec} {st st' : St}
    (h : RecStep p d dc r st st') (hC : InvC S p st) (hmem : r ∈ st.m.released) (htoday : st.m.today = d)
    (hdc : dc + p.rd = d) (hfresh : st.sh.latestTag r.site ≤ dc) : InvC S p st' := by
  have hdle : dc + p.rd ≤ st.m.today := by omega
  have taken : ∀ {pl pool'} (f : Nat → Bool), poolTake r.site st.m.pool = (some pl, pool') →
      InvC S p { st with m := { st.m with pool := pool', inPool := f } } ∧ pl.site = r.site ∧
      PlanOK p st.m.released st.m.today (updPlan p pl r.rate dc) := by
    intro pl pool' f hpt
    obtain ⟨hs, hperm, hsub⟩ := poolTake_some hpt
    exact ⟨hC.setPool f (fun x hx => hC.poolOK x (hsub.subset hx))
      (fun hst x hx => hC.poolThr hst x (hsub.subset hx)), hs,
      planOK_upd (hC.poolOK pl (hperm.mem_iff.mpr (.head _))) hmem hs hdle⟩
  cases h with
  | errPool => exact hC.setShared _ hC.queueOK
  | errQueue => exact hC.setShared _ hC.queueOK
  | poolInstant _ hpt hi =>
    obtain ⟨hC', hs, hpl⟩ := taken _ hpt
    exact flagSite_invC hC' hpl htoday
      (routeOK_instant hi (by simpa using hdc) (by simpa [hs] using hfresh))
  | poolKeep _ hpt hthr =>
    obtain ⟨hC', hs, hpl⟩ := taken st.m.inPool hpt
    exact hC.setPool st.m.inPool
      (fun x hx => (mem_poolInsert.mp hx).elim (· ▸ hpl) (hC'.poolOK x))
      (fun hst x hx => (mem_poolInsert.mp hx).elim (· ▸ hthr hst) (hC'.poolThr hst x))
  | poolDrop _ hpt => exact (taken _ hpt).1
  | requeue cls _ hfl =>
    obtain ⟨e, hemem, rfl, hs⟩ := qFindLast_some hfl
    refine hC.setShared _ fun hS x hx => ?_
    rcases mem_qInsert.mp hx with rfl | hx
    · exact planOK_upd (hC.queueOK hS e hemem) hmem hs hdle
    · exact hC.queueOK hS x (mem_qRemove hx).1
  | withdraw => exact hC.setShared _ fun hS x hx => hC.queueOK hS x (mem_qRemove hx).1
  | newInstant _ _ hi =>
    exact flagSite_invC hC (planOK_new hmem hdle) htoday (routeOK_instant hi hdc hfresh)
  | newPool _ _ hthr =>
    exact hC.setPool _
      (fun x hx => (mem_poolInsert.mp hx).elim (· ▸ planOK_new hmem hdle) (hC.poolOK x))
      (fun hst x hx => (mem_poolInsert.mp hx).elim (· ▸ hthr hst) (hC.poolThr hst x))
  | count => exact ⟨hC.poolOK, hC.queueOK, hC.poolThr, hC.evsOK, hC.relOK, hC.firstOK⟩

theorem processRec_invC {S : Prop} (p : Params) (d dc : Int) (st : St) (r : Rec) (h : InvC S p st)
    (htoday : st.m.today = d) (hdc : dc + p.rd = d) (hr : r.date = dc) :
    InvC S p (processRec p d dc st r) := by
  rcases processRec_step p d dc st r with e | ⟨hfresh, hs⟩
  · rwa [e]
  · refine hs.invC (h.mono rfl rfl rfl rfl (fun x hx => List.mem_append_left _ hx) (Int.le_refl _) ?_)
      (by simp) htoday hdc hfresh
    intro rc hrc
    rcases List.mem_append.mp hrc with hrc | hrc
    · exact h.relOK rc hrc
    · rw [List.mem_singleton.mp hrc]; show r.date + p.rd ≤ st.m.today; omega

structure LoopC (S : Prop) (p : Params) (d first : Int) (st : St) (cs : List Plan) : Prop where
  inv : InvC S p st
  today : st.m.today = d
  csOK : ∀ pl ∈ cs, PlanOK p st.m.released st.m.today pl
  csThr : p.stationary = false → ∀ pl ∈ cs, p.thr ≤ pl.rate
  due : first + p.delay ≤ d

theorem flagOne_loopC {S : Prop} (p : Params) (d first : Int) (st : St) (pl : Plan) (cs : List Plan)
    (h : LoopC S p d first st (pl :: cs)) : LoopC S p d first (flagOne p d first st pl) cs := by
  obtain ⟨hC, htoday, hcs, hcthr, hdue⟩ := h
  have hpl := hcs pl List.mem_cons_self
  have hcs' := fun x hx => hcs x (List.mem_cons_of_mem _ hx)
  have hcthr' := fun hs x hx => hcthr hs x (List.mem_cons_of_mem _ hx)
  unfold flagOne
  split
  · next hc =>
    exact ⟨hC.setPool st.m.inPool (fun x hx => (mem_poolInsert.mp hx).elim (· ▸ hpl) (hC.poolOK x))
      (fun hs => by simp [hs] at hc), htoday, hcs', hcthr', hdue⟩
  · next hc =>
    refine ⟨flagSite_invC ⟨hC.poolOK, hC.queueOK, hC.poolThr, hC.evsOK, hC.relOK, hC.firstOK⟩ hpl
      htoday ⟨hdue, ?_⟩, htoday, hcs', hcthr', hdue⟩
    -- the rate tests that let the loop flag the candidate
    cases hst : p.stationary with
    | false => simpa [mkEv] using hcthr hst pl List.mem_cons_self
    | true =>
      exact Decidable.or_iff_not_imp_left.mpr
        (by simpa [hst, followShort, followLong, mkEv, and_assoc] using hc)

theorem decideNow_invC {S : Prop} (p : Params) (d first : Int) (st : St) (h : InvC S p st)
    (htoday : st.m.today = d) (hdue : first + p.delay ≤ d) : InvC S p (decideNow p d first st) :=
  (foldl_loop (P := LoopC S p d first) (flagOne_loopC p d first)
    (s := decideStart p st) ⟨⟨by simp [decideStart], h.queueOK, by simp [decideStart], h.evsOK, h.relOK,
        by simp [decideStart]⟩, htoday,
      fun pl hpl => h.poolOK pl (List.mem_of_mem_take hpl),
      fun hs pl hpl => h.poolThr hs pl (List.mem_of_mem_take hpl), hdue⟩).inv

theorem dailyUpdate_invC {S : Prop} (p : Params) (d : Int) (st : St) (h : InvC S p st) (hd : st.m.today ≤ d) :
    InvC S p (dailyUpdate p d st) := by
  refine dailyUpdate_ind (P := fun s => InvC S p s ∧ s.m.today = d)
    (fun s r hr hs => ⟨processRec_invC p d _ s r hs.1 hs.2 (by omega) hr,
      (processRec_frame ..).1.trans hs.2⟩)
    (fun first s hdue hs => decideNow_invC p d first s hs.1 hs.2 hdue)
    (fun s fc hfc hs => ⟨hs.1.poolOK, hs.1.queueOK, hs.1.poolThr, hs.1.evsOK, hs.1.relOK, fun x hx => ?_⟩)
    ⟨h.mono rfl rfl rfl rfl (fun _ hx => hx) hd fun rc hrc => Int.le_trans (h.relOK rc hrc) hd, rfl⟩
  rcases hfc with rfl | rfl
  · exact hs.1.firstOK x hx
  · cases hx; exact Int.le_of_eq hs.2.symm

theorem followUpDay_invC {S : Prop} (p : Params) (cap : Nat) (d : Int) (outs : Nat → Outcome) (st : St)
    (h : InvC S p st) : InvC S p { st with sh := followUpDay cap d outs st.sh } := by
  refine h.setShared _ fun hS => ?_
  unfold followUpDay
  refine foldl_inv (P := fun (sh : Shared) => ∀ e ∈ sh.queue, PlanOK p st.m.released st.m.today e.plan)
    (fun sh pl hpl hq => ?_) fun e he => h.queueOK hS e (List.mem_of_mem_drop he)
  obtain ⟨e, he, rfl⟩ := mem_dedupPlans pl hpl
  have hpl := h.queueOK hS e (List.mem_of_mem_take he)
  unfold applyOutcome
  simp only []
  split
  · exact hq
  · exact fun x hx => (mem_qInsert.mp hx).elim (· ▸ hpl) (hq x)
  · exact fun x hx => (mem_qInsert.mp hx).elim (· ▸ hpl) (hq x)

def opDated (st : St) : Op1 → Prop
  | .update d => st.m.today ≤ d
  | .fuDay d _ => st.m.today ≤ d
  | _ => True

/-- update days and follow-up days never go backwards (executable form) -/
def wellDated (p : Params) (cap : Nat) : St → List Op1 → Bool
  | _, [] => true
  | st, op :: t =>
    (match op with
     | .update d => decide (st.m.today ≤ d)
     | .fuDay d _ => decide (st.m.today ≤ d)
     | _ => true) && wellDated p cap (step1 p cap st op) t

def WellDated (p : Params) (cap : Nat) (st : St) (ops : List Op1) : Prop := wellDated p cap st ops = true

instance (p : Params) (cap : Nat) (st : St) (ops : List Op1) : Decidable (WellDated p cap st ops) := by
  unfold WellDated; infer_instance

theorem wellDated_cons {p : Params} {cap : Nat} {st : St} {op : Op1} {t : List Op1} :
    WellDated p cap st (op :: t) ↔ opDated st op ∧ WellDated p cap (step1 p cap st op) t := by
  unfold WellDated
  cases op <;> simp [wellDated, opDated]

theorem step1_invC {S : Prop} (p : Params) (cap : Nat) (st : St) (op : Op1) (h : InvC S p st)
    (hw : opDated st op) : InvC S p (step1 p cap st op) := by
  cases op with
  | screen s r d => exact ⟨h.poolOK, h.queueOK, h.poolThr, h.evsOK, h.relOK, h.firstOK⟩
  | update d => exact dailyUpdate_invC p d st h hw
  | fuDay d outs => exact followUpDay_invC p cap d outs st h
  | tag s d => exact h.setShared _ h.queueOK

theorem foldl_wellDated {P : St → Prop} {p : Params} {cap : Nat}
    (hstep : ∀ st op, P st → opDated st op → P (step1 p cap st op)) :
    ∀ (ops : List Op1) (st : St), P st → WellDated p cap st ops → P (ops.foldl (step1 p cap) st)
  | [], _, h, _ => h
  | op :: t, st, h, hw =>
    foldl_wellDated hstep t _ (hstep st op h (wellDated_cons.mp hw).1) (wellDated_cons.mp hw).2

theorem run1_invC {S : Prop} (p : Params) (cap : Nat) (ops : List Op1) (hw : WellDated p cap {} ops) :
    InvC S p (run1 p cap ops) :=
  foldl_wellDated (step1_invC p cap) ops {} (invC_init S p) hw

/-! ### invariant D: flag counter and visits -/

def evCount (l : List FlagEv) (s : Nat) : Nat := l.countP (fun f => f.site = s)

structure InvD (p : Params) (st : St) : Prop where
  flagsEq : ∀ s, st.sh.flags s = evCount st.m.evs s
  visitsOK : ∀ v ∈ st.sh.visits, v.recDate + p.rd ≤ v.day

theorem flagSite_invD {p : Params} {cls : Nat} {pl : Plan} {route : Route} {d first : Int} {st : St}
    (h : InvD p st) : InvD p (flagSite cls pl route d first st) := by
  refine ⟨fun s => ?_, h.visitsOK⟩
  have := h.flagsEq s
  simp only [flagSite, evCount, List.countP_append, List.countP_singleton, mkEv, bump_apply] at this ⊢
  split <;> simp_all [eq_comm]

theorem RecStep.invD {p : Params} {d dc : Int} {r : Rec} {st st' : St} (h : RecStep p d dc r st st')
    (hD : InvD p st) : InvD p st' := by
  cases h with
  | poolInstant => exact flagSite_invD ⟨hD.flagsEq, hD.visitsOK⟩
  | newInstant => exact flagSite_invD hD
  | _ => exact ⟨hD.flagsEq, hD.visitsOK⟩

theorem processRec_invD (p : Params) (d dc : Int) (st : St) (r : Rec) (h : InvD p st) :
    InvD p (processRec p d dc st r) := by
  rcases processRec_step p d dc st r with e | ⟨_, hs⟩
  · rwa [e]
  · exact hs.invD ⟨h.flagsEq, h.visitsOK⟩

theorem flagOne_invD (p : Params) (d first : Int) (st : St) (pl : Plan) (h : InvD p st) :
    InvD p (flagOne p d first st pl) := by
  unfold flagOne
  split
  · exact ⟨h.flagsEq, h.visitsOK⟩
  · exact flagSite_invD ⟨h.flagsEq, h.visitsOK⟩

theorem dailyUpdate_invD (p : Params) (d : Int) (st : St) (h : InvD p st) : InvD p (dailyUpdate p d st) :=
  dailyUpdate_inv (fun s r => processRec_invD p d _ s r) (fun first s pl => flagOne_invD p d first s pl)
    (fun _ h => ⟨h.flagsEq, h.visitsOK⟩) (fun _ _ h => ⟨h.flagsEq, h.visitsOK⟩) ⟨h.flagsEq, h.visitsOK⟩

theorem followUpDay_invD (p : Params) (cap : Nat) (d : Int) (outs : Nat → Outcome) (st : St)
    (h : InvD p st) (hc : InvC True p st) (hd : st.m.today ≤ d) :
    InvD p { st with sh := followUpDay cap d outs st.sh } := by
  unfold followUpDay
  have := foldl_inv (P := fun (sh : Shared) => sh.flags = st.sh.flags ∧ ∀ v ∈ sh.visits, v.recDate + p.rd ≤ v.day)
    (f := applyOutcome d outs) (l := planned cap st.sh) (s := { st.sh with queue := st.sh.queue.drop cap })
    (fun sh pl hpl hsh => ?_) ⟨rfl, h.visitsOK⟩
  · exact ⟨fun s => (congrFun this.1 s).trans (h.flagsEq s), this.2⟩
  · obtain ⟨e, he, rfl⟩ := mem_dedupPlans pl hpl
    have := (hc.queueOK trivial e (List.mem_of_mem_take he)).2.2.1
    have key : ∀ v ∈ sh.visits ++ [Visit.mk e.plan.site e.plan.latest (sh.latestTag e.plan.site) d
        (outs e.plan.site)], v.recDate + p.rd ≤ v.day := by
      intro v hv
      rcases List.mem_append.mp hv with hv | hv
      · exact hsh.2 v hv
      · rw [List.mem_singleton.mp hv]; show e.plan.latest + p.rd ≤ d; omega
    unfold applyOutcome
    simp only []
    split <;> exact ⟨hsh.1, key⟩

theorem step1_invD (p : Params) (cap : Nat) (st : St) (op : Op1) (h : InvD p st) (hc : InvC True p st)
    (hw : opDated st op) : InvD p (step1 p cap st op) := by
  cases op with
  | screen s r d => exact ⟨h.flagsEq, h.visitsOK⟩
  | update d => exact dailyUpdate_invD p d st h
  | fuDay d outs => exact followUpDay_invD p cap d outs st h hc hw
  | tag s d => exact ⟨h.flagsEq, h.visitsOK⟩

theorem run1_invD (p : Params) (cap : Nat) (ops : List Op1) (hw : WellDated p cap {} ops) :
    InvD p (run1 p cap ops) :=
  (foldl_wellDated (P := fun st => InvD p st ∧ InvC True p st)
    (fun st op h hw => ⟨step1_invD p cap st op h.1 h.2 hw, step1_invC p cap st op h.2 hw⟩) ops {}
    ⟨⟨fun _ => rfl, by simp⟩, invC_init True p⟩ hw).1

/-! ### invariant K (any number of screening methods) -/

def K (sh : Shared) : Prop := ∀ s, sh.done s + sh.dropped s + outstanding sh.queue s ≤ sh.flags s

theorem flagSite_K (cls : Nat) (pl : Plan) (route : Route) (d first : Int) (st : St) (h : K st.sh) :
    K (flagSite cls pl route d first st).sh := by
  intro s
  have := h s
  simp only [flagSite, enqueue, outstanding_qInsert, bump_apply]
  split <;> omega

theorem RecStep.K {p : Params} {d dc : Int} {r : Rec} {st st' : St} (h : RecStep p d dc r st st')
    (hK : K st.sh) : K st'.sh := by
  have hpos : ∀ {pl}, qFindLast r.site st.sh.queue = some pl →
      pl.site = r.site ∧ 1 ≤ outstanding st.sh.queue r.site := fun hfl =>
    have ⟨e, he, hpl, hs⟩ := qFindLast_some hfl
    ⟨hs, outstanding_pos_iff.mpr ⟨e, he, hpl ▸ hs⟩⟩
  cases h with
  | poolInstant => exact flagSite_K _ _ _ _ _ _ hK
  | newInstant => exact flagSite_K _ _ _ _ _ _ hK
  | requeue cls _ hfl =>
    intro s
    have := hK s
    have := hpos hfl
    simp only [enqueue, outstanding_qInsert, outstanding_qRemove, updPlan_site, this.1]
    split
    · next e => subst e; omega
    · omega
  | withdraw _ hfl =>
    intro s
    have := hK s
    have := hpos hfl
    simp only [outstanding_qRemove, bump_apply]
    split
    · next e => subst e; omega
    · omega
  | _ => exact hK

theorem processRec_K (p : Params) (d dc : Int) (st : St) (r : Rec) (h : K st.sh) :
    K (processRec p d dc st r).sh := by
  rcases processRec_step p d dc st r with e | ⟨_, hs⟩
  · rwa [e]
  · exact hs.K h

theorem flagOne_K (p : Params) (d first : Int) (st : St) (pl : Plan) (h : K st.sh) :
    K (flagOne p d first st pl).sh := by
  unfold flagOne
  split
  · exact h
  · exact flagSite_K _ _ _ _ _ _ h

theorem dailyUpdate_K (p : Params) (d : Int) (st : St) (h : K st.sh) : K (dailyUpdate p d st).sh :=
  dailyUpdate_inv (P := fun s => K s.sh) (fun s r => processRec_K p d _ s r)
    (fun first s pl => flagOne_K p d first s pl) (fun _ h => h) (fun _ _ h => h) h

theorem followUpDay_K (cap : Nat) (d : Int) (outs : Nat → Outcome) (sh : Shared) (h : K sh) :
    K (followUpDay cap d outs sh) := by
  unfold followUpDay
  have := foldl_loop (f := applyOutcome d outs) (l := planned cap sh)
    (s := { sh with queue := sh.queue.drop cap })
    (P := fun sh' cs => ∀ s, sh'.done s + sh'.dropped s + outstanding sh'.queue s + cnt cs s ≤ sh'.flags s)
    (fun sh' pl cs h' s => ?_) (fun s => ?_)
  · exact fun s => by simpa using this s
  · have := h' s
    rw [cnt_cons] at this
    unfold applyOutcome
    simp only []
    split
    · simp only [bump_apply]
      split
      · next e => subst e; rw [if_pos rfl] at this; omega
      · next e => rw [if_neg e] at this; omega
    · simp only [enqueue, outstanding_qInsert]; omega
    · simp only [enqueue, outstanding_qInsert]; omega
  · have := h s
    have := outstanding_take_drop sh.queue cap s
    have := cnt_dedupPlans (sh.queue.take cap) s
    show sh.done s + sh.dropped s + outstanding (sh.queue.drop cap) s
      + cnt (dedupPlans (sh.queue.take cap)) s ≤ sh.flags s
    omega

end LdarModel.FollowUp
