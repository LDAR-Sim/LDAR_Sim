import LdarModel.Model.World
import LdarModel.Lemmas.Emission
import LdarModel.Lemmas.EmissionE
/-
Per-emission step facts for the daily ledger (C11): what the three phases of a day (activation, the
day's events, the daily update) do to one emission, and the two per-emission balance equations.
-/
namespace LdarModel.World
open LdarModel.Emission

theorem events_core (p : Params) (d : Int) (evs : List Ev) (s : State) :
    (evs.foldl (fun s e => applyEv p d e s) s).status = s.status ∧
    (evs.foldl (fun s e => applyEv p d e s) s).activeDays = s.activeDays ∧
    (evs.foldl (fun s e => applyEv p d e s) s).emitting = s.emitting ∧
    (evs.foldl (fun s e => applyEv p d e s) s).daysEmitting = s.daysEmitting := by
  obtain ⟨h1, h2, -, -, -, -, -, h3, h4, -⟩ := (tproj_eq_iff _ _).1 (events_tproj p d evs s s rfl)
  obtain ⟨t1, t2, -, -, t3, t4, -⟩ := tags_frame p d (tagsOf evs) s
  exact ⟨h1.trans t1, h2.trans t2, h3.trans t3, h4.trans t4⟩

theorem events_frozen (p : Params) (d : Int) (evs : List Ev) (s : State) (h : s.status ≠ .active) :
    evs.foldl (fun s e => applyEv p d e s) s = s := by
  induction evs with
  | nil => rfl
  | cons e evs ih =>
    have : applyEv p d e s = s := by
      cases e with
      | tag e => exact tag_settled p d e s (Or.inl h)
      | detect c => exact if_neg h
    rw [List.foldl_cons, this]; exact ih

theorem update_active (p : Params) (s : State) (h : s.status = .active) :
    (update p s).activeDays = s.activeDays + 1 ∧
    ((update p s).status = .repaired ∨ (update p s).status = .expired ∨
      update p s = toggle p (counted p s)) := by
  have tf := (toggle_frame p (counted p s)).2.1
  rw [update_eq, if_neg (not_not_intro h)]
  split
  · exact ⟨rfl, Or.inl rfl⟩
  · split
    · split
      · exact ⟨rfl, Or.inl rfl⟩
      · exact ⟨rfl, Or.inr (Or.inl rfl)⟩
    · exact ⟨tf, Or.inr (Or.inr rfl)⟩

/-- an ended emission never changes again -/
theorem dayE_frozen (p : Params) (d : Int) (evs : List Ev) (s : State)
    (h : s.status = .repaired ∨ s.status = .expired) : dayE p d evs s = s := by
  have h1 : activate p d s = s := by unfold activate; grind
  have h2 : s.status ≠ .active := by grind
  unfold dayE
  rw [h1, events_frozen p d evs s h2, update_eq, if_pos h2]

theorem dayE_pending (p : Params) (d : Int) (evs : List Ev) (s : State)
    (h : s.status = .inactive) (hs : ¬ p.start ≤ d) : (dayE p d evs s).status = .inactive := by
  have h1 : activate p d s = s := by unfold activate; simp [hs]
  have h2 : s.status ≠ .active := by rw [h]; decide
  unfold dayE
  rw [h1, events_frozen p d evs s h2, update_eq, if_pos h2, h]

theorem dayE_live (p : Params) (d : Int) (evs : List Ev) (s : State)
    (h : s.status = .active ∨ (s.status = .inactive ∧ p.start ≤ d)) :
    (dayE p d evs s).status = .active ∨ (dayE p d evs s).status = .repaired ∨
    (dayE p d evs s).status = .expired := by
  have hm : (evs.foldl (fun s e => applyEv p d e s) (activate p d s)).status = .active := by
    rw [(events_core ..).1]; unfold activate; grind
  rcases (update_active p _ hm).2 with h | h | h
  · exact Or.inr (Or.inl h)
  · exact Or.inr (Or.inr h)
  · exact Or.inl (by unfold dayE; rw [h, (toggle_frame p _).1]; exact hm)

theorem dayE_activeDays (p : Params) (d : Int) (evs : List Ev) (s : State) (h : s.status = .active) :
    (dayE p d evs s).activeDays = s.activeDays + 1 := by
  have h1 : activate p d s = s := by unfold activate; simp [h]
  unfold dayE
  rw [h1, (update_active p _ ((events_core ..).1.trans h)).1, (events_core ..).2.1]

theorem st_succ (e : Em) (n : Nat) : st e (n + 1) = dayE e.p n (e.ev n) (st e n) := rfl

/-- per-emission ledger: active after day `n` = active before + new − ended -/
theorem em_ledger (e : Em) (n : Nat) :
    ind (activeAt e (n + 1)) = ind (activeAt e n) + ind (isNew e n) - ind (endedOn e n) := by
  unfold endedOn activeAt isNew ind
  rw [st_succ]
  cases hs : (st e n).status
  · by_cases hn : e.p.start ≤ (n : Int)
    · have := dayE_live e.p n (e.ev n) (st e n) (Or.inr ⟨hs, hn⟩)
      rcases this with h | h | h <;> simp [h, hn]
    · have := dayE_pending e.p n (e.ev n) (st e n) hs hn
      simp [this, hn]
  · have := dayE_live e.p n (e.ev n) (st e n) (Or.inl hs)
    rcases this with h | h | h <;> simp [h]
  · rw [dayE_frozen e.p n (e.ev n) (st e n) (Or.inl hs)]; simp [hs]
  · rw [dayE_frozen e.p n (e.ev n) (st e n) (Or.inr hs)]; simp [hs]

/-- an emission that left the active list was repaired by the program, naturally, or expired —
exactly one of the three -/
theorem em_ended_split (e : Em) (n : Nat) :
    ind (endedOn e n) = ind (repairedOn e n) + ind (natRepairedOn e n) + ind (expiredOn e n) := by
  unfold repairedOn natRepairedOn expiredOn
  by_cases he : endedOn e n = true
  · have he' := he
    unfold endedOn activeAt isNew at he'
    rw [st_succ] at he'
    have live : (dayE e.p n (e.ev n) (st e n)).status = .active ∨
        (dayE e.p n (e.ev n) (st e n)).status = .repaired ∨
        (dayE e.p n (e.ev n) (st e n)).status = .expired := by
      apply dayE_live
      simp only [Bool.and_eq_true, Bool.or_eq_true, decide_eq_true_eq, Bool.not_eq_true',
        decide_eq_false_iff_not] at he'
      exact he'.1
    simp only [Bool.and_eq_true, Bool.not_eq_true', decide_eq_false_iff_not] at he'
    rw [he, st_succ]
    unfold ind
    rcases live with h | h | h
    · exact absurd h he'.2
    · by_cases hb : (dayE e.p n (e.ev n) (st e n)).by_ = .natural <;> simp [h, hb]
    · simp [h]
  · have : endedOn e n = false := by simpa using he
    rw [this]; simp [ind]

end LdarModel.World
