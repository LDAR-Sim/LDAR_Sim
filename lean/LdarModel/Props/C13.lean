import LdarModel.Lemmas.Window
/-
C13 — measurement-based inventory: estimation windows tile the simulated period.

Model: `Model/Window.lean` (`report`, `groupWins`, `winsFrom`, `exactRounding`, `Tiles`), the code as
repaired in /repo (only `duration * factor` is rounded, the complementary share is taken by
subtraction; start and end dates are computed per group).  The statement is over both modes (per site / per site-equipment-component),
every duration factor `f = p/q ∈ [0,1]`, every table of survey reports inside the period (any
number of sites and components, any spacing including equal dates and surveys on the first and
last day, any rates including zero and equal rates).

`C13_tiling_any_rounding` is the form that covers the floating point implementation: whatever
integers in `[0, gap]` the code obtains for `floor(gap * factor)` and `ceil(gap * factor)`, the
windows still tile.
-/
namespace LdarModel.Window

/-- share clause on consecutive windows of a group: of the `g` days between two consecutive
measurements the larger one (the earlier one when they are equal) receives `lo g` days when it is
the earlier and `hi g` days when it is the later one, the other measurement receives the rest -/
def ShareOK (lo hi : Int → Int) : List Win → Prop
  | w :: w' :: ws =>
    (if w'.rate ≤ w.rate then w.stop - w.date = lo (w'.date - w.date)
      else w'.date - w'.start = hi (w'.date - w.date))
    ∧ (w.stop - w.date) + (w'.date - w'.start) = w'.date - w.date
    ∧ ShareOK lo hi (w' :: ws)
  | _ => True

/-- volume clause: estimated volume = measured rate × window days × 86.4, rates being
`rate / scale` g/s and the model's volume `volNum / (10·scale)` -/
def VolumeOK (scale : Nat) (ws : List Win) : Prop :=
  ∀ w ∈ ws, ((w.volNum : Int) : ℚ) / (10 * (scale : ℚ))
      = ((w.rate : ℚ) / (scale : ℚ)) * ((w.stop - w.start : Int) : ℚ) * (864 / 10)

/-- the property at full strength -/
def C13_statement : Prop :=
  ∀ (m : Mode) (f : Fac) (S E : Int) (scale : Nat) (recs : List Rec),
    f.Valid → 0 < scale → S ≤ E → (∀ r ∈ recs, S ≤ r.date ∧ r.date ≤ E) →
    -- every surveyed site (component) has a group of windows
    (∀ r ∈ relevant m recs, ∃ kw ∈ report m (exactRounding f) S E recs, kw.1 = keyOf m r) ∧
    -- whose windows partition the period, give the share `f` (⌊g·f⌋ or ⌈g·f⌉ days of an interval of
    -- g days) to the larger bounding measurement and carry the volume
    (∀ kw ∈ report m (exactRounding f) S E recs,
      Tiles S E kw.2 ∧
      ShareOK (fun (g : Int) => ⌊(g : ℚ) * f.ratio⌋) (fun (g : Int) => ⌈(g : ℚ) * f.ratio⌉) kw.2 ∧
      VolumeOK scale kw.2)

/-- `a i + b (i+1) = 1`: the factor chosen for the end of a window and the factor chosen for the
start of the next one are complementary for every ordering of the two rates, equality included;
consequently the two offsets of an interval add up to its length for every rounding -/
theorem C13_complementary (f : Fac) (r rn : Int) :
    prevCond r rn = !nextCond r rn ∧
    f.num (nextCond r rn) + f.num (prevCond r rn) = f.q ∧
    f.val (nextCond r rn) + f.val (prevCond r rn) = 1 ∧
    ∀ (ρ : Rounding) (g : Int), endOffset ρ g (nextCond r rn) + startOffset ρ g (prevCond r rn) = g := by
  refine ⟨prevCond_eq_not_nextCond r rn, ?_, ?_, fun ρ g => offsets_meet ρ g r rn⟩
  · rw [prevCond_eq_not_nextCond]; exact num_add_num_not f _
  · rw [prevCond_eq_not_nextCond]; exact val_add_val_not f _

/-- the hypothesis the tiling theorems rest on, stated on the condition columns themselves: on every
pair of neighbouring rows of every group `prev(i+1) ↔ ¬ next(i)`, the first row has previous condition
False and the last row next condition False.  It is a theorem about the EXACT comparisons
`r(i+1) − r(i) ≤ 0` and `r(i) − r(i+1) < 0`: a tolerance in one of them only (rates equal up to rounding)
breaks it, and with it `offsets_meet` / `C13_tiling_any_rounding`. -/
theorem C13_conditions_complementary (S E : Int) (rows : List Row) :
    Complementary (groupConds S E rows) ∧
    (∀ c ∈ (groupConds S E rows).head?, c.1 = false) ∧
    (∀ c ∈ (groupConds S E rows).getLast?, c.2 = false) := by
  refine ⟨complementary_condsFrom _ none, ?_, condsFrom_getLast _ none⟩
  unfold groupConds
  cases groupRows S E rows with
  | nil => simp [condsFrom]
  | cons x rest => simp [condsFrom_cons]

/-- `⌈g·x⌉ + ⌊g·(1−x)⌋ = g` over ℚ, and its model form: in exact arithmetic the repaired offsets
(which only ever round `g·f` and take the complement by subtraction) are the offsets
`⌊g·a⌋`, `⌈g·b⌉` the code computed before the repairs -/
theorem C13_split_sum :
    (∀ (g : Int) (x : ℚ), ⌈(g : ℚ) * x⌉ + ⌊(g : ℚ) * (1 - x)⌋ = g) ∧
    (∀ (f : Fac) (g : Int) (c : Bool), 0 < f.q →
      endOffset (exactRounding f) g c = ⌊(g : ℚ) * f.val c⌋ ∧
      startOffset (exactRounding f) g c = ⌈(g : ℚ) * f.val c⌉ ∧
      endOffset (exactRounding f) g c = endOffsetOrig f g c ∧
      startOffset (exactRounding f) g c = startOffsetOrig f g c) := by
  refine ⟨ceil_add_floor_compl, fun f g c hq => ?_⟩
  have he : endOffset (exactRounding f) g c = ⌊(g : ℚ) * f.val c⌋ := by
    cases c
    · exact exact_lo_eq_floor f hq g
    · show g - (exactRounding f).hi g = _
      rw [exact_hi_eq_ceil f hq, val_true]
      exact (eq_sub_of_add_eq' (ceil_add_floor_compl g f.ratio)).symm
  have hs : startOffset (exactRounding f) g c = ⌈(g : ℚ) * f.val c⌉ := by
    cases c
    · exact exact_hi_eq_ceil f hq g
    · show g - (exactRounding f).lo g = _
      rw [exact_lo_eq_floor f hq, val_true]
      exact (eq_sub_of_add_eq' (floor_add_ceil_compl g f.ratio)).symm
  exact ⟨he, hs, by rw [he, endOffsetOrig_eq_floor f hq], by rw [hs, startOffsetOrig_eq_ceil f hq]⟩

/-- tiling for every rounding: if the code obtains *any* whole numbers of days in `[0, duration]`
for `floor(duration * factor)` and `ceil(duration * factor)` (floating point included), the
windows of every group partition `[S, E)` -/
theorem C13_tiling_any_rounding (ρ : Rounding)
    (hρ : ∀ g, 0 ≤ g → (0 ≤ ρ.lo g ∧ ρ.lo g ≤ g) ∧ (0 ≤ ρ.hi g ∧ ρ.hi g ≤ g))
    (m : Mode) (S E : Int) (recs : List Rec) (hSE : S ≤ E)
    (hb : ∀ r ∈ recs, S ≤ r.date ∧ r.date ≤ E) :
    ∀ kw ∈ report m ρ S E recs, Tiles S E kw.2 :=
  forall_mem_report fun k => tiles_groupWins ρ hρ S E _ hSE (groupInput_bounds m recs k S E hb)

/-- tiling in exact arithmetic for every `f ∈ [0,1]` and every spacing -/
theorem C13_tiling (m : Mode) (f : Fac) (S E : Int) (recs : List Rec) (hf : f.Valid) (hSE : S ≤ E)
    (hb : ∀ r ∈ recs, S ≤ r.date ∧ r.date ≤ E) :
    ∀ kw ∈ report m (exactRounding f) S E recs, Tiles S E kw.2 :=
  C13_tiling_any_rounding (exactRounding f) (exactRounding_admissible f hf) m S E recs hSE hb

private theorem shareOK_winsFrom (ρ : Rounding) (rows : List Row) (prev : Option Row) :
    ShareOK ρ.lo ρ.hi (winsFrom ρ prev rows) := by
  induction rows generalizing prev with
  | nil => simp [winsFrom, ShareOK]
  | cons x rest ih =>
    cases rest with
    | nil => simp [winsFrom, ShareOK]
    | cons z zs =>
      have ih := ih (some x)
      rw [winsFrom_cons] at ih
      simp only [winsFrom_cons, ShareOK, endOff, startOff, add_sub_cancel_left, sub_sub_cancel]
      exact ⟨share_offsets ρ _ _ _, offsets_meet ρ _ _ _, ih⟩

/-- share for every rounding: the larger bounding measurement of every interval receives exactly
what the code obtained for `floor(g * factor)` (if it is the earlier one) or `ceil(g * factor)` (if
it is the later one), the smaller one the remaining days -/
theorem C13_share_any_rounding (m : Mode) (ρ : Rounding) (S E : Int) (recs : List Rec) :
    ∀ kw ∈ report m ρ S E recs, ShareOK ρ.lo ρ.hi kw.2 :=
  forall_mem_report fun _ => shareOK_winsFrom ρ _ none

/-- share in exact arithmetic: `⌊g·f⌋` / `⌈g·f⌉` days go to the larger measurement -/
theorem C13_share (m : Mode) (f : Fac) (S E : Int) (recs : List Rec) (hq : 0 < f.q) :
    ∀ kw ∈ report m (exactRounding f) S E recs,
      ShareOK (fun (g : Int) => ⌊(g : ℚ) * f.ratio⌋) (fun (g : Int) => ⌈(g : ℚ) * f.ratio⌉) kw.2 := by
  intro kw hkw
  have h := C13_share_any_rounding m (exactRounding f) S E recs kw hkw
  rwa [funext (exact_lo_eq_floor f hq), funext (exact_hi_eq_ceil f hq)] at h

/-- share clause as the float implementation can meet it: of the `g` days between two consecutive
measurements the larger one (the earlier one when equal) receives `d` days with
`⌊g·f⌋ ≤ d ≤ ⌈g·f⌉`, the other one the remaining `g − d` days -/
def ShareWithin (f : Fac) : List Win → Prop
  | w :: w' :: ws =>
    (⌊((w'.date - w.date : Int) : ℚ) * f.ratio⌋
        ≤ (if w'.rate ≤ w.rate then w.stop - w.date else w'.date - w'.start)
      ∧ (if w'.rate ≤ w.rate then w.stop - w.date else w'.date - w'.start)
        ≤ ⌈((w'.date - w.date : Int) : ℚ) * f.ratio⌉)
    ∧ (w.stop - w.date) + (w'.date - w'.start) = w'.date - w.date
    ∧ ShareWithin f (w' :: ws)
  | _ => True

/-- a rounding is `f`-bounded when what the code obtains for `floor(g * factor)` and
`ceil(g * factor)` lies between the exact `⌊g·f⌋` and `⌈g·f⌉` (true of IEEE doubles because
rounding to nearest is monotone and whole numbers are representable; checked on the float grid and
on random doubles by the correspondence, gap 0..2000) -/
def BoundedBy (f : Fac) (ρ : Rounding) : Prop :=
  ∀ g : Int, 0 ≤ g →
    (⌊(g : ℚ) * f.ratio⌋ ≤ ρ.lo g ∧ ρ.lo g ≤ ⌈(g : ℚ) * f.ratio⌉) ∧
    (⌊(g : ℚ) * f.ratio⌋ ≤ ρ.hi g ∧ ρ.hi g ≤ ⌈(g : ℚ) * f.ratio⌉)

private theorem shareWithin_winsFrom (f : Fac) (ρ : Rounding) (hb : BoundedBy f ρ) (rows : List Row)
    (prev : Option Row) (hs : Sorted rows) : ShareWithin f (winsFrom ρ prev rows) := by
  induction rows generalizing prev with
  | nil => simp [winsFrom, ShareWithin]
  | cons x rest ih =>
    cases rest with
    | nil => simp [winsFrom, ShareWithin]
    | cons z zs =>
      have hx := List.pairwise_cons.mp hs
      have ih := ih (some x) hx.2
      have hl := share_offsets ρ (z.date - x.date) x.rate z.rate
      have hg := hb (z.date - x.date) (Int.sub_nonneg.2 (hx.1 z List.mem_cons_self))
      rw [winsFrom_cons] at ih
      simp only [winsFrom_cons, ShareWithin, endOff, startOff, add_sub_cancel_left, sub_sub_cancel]
      refine ⟨?_, offsets_meet ρ _ _ _, ih⟩
      by_cases h : z.rate ≤ x.rate
      · rw [if_pos h] at hl ⊢
        rw [hl]; exact hg.1
      · rw [if_neg h] at hl ⊢
        rw [hl]; exact hg.2

/-- share for the float implementation: for every rounding that stays between `⌊g·f⌋` and
`⌈g·f⌉`, the larger bounding measurement of every interval receives `⌊g·f⌋` or `⌈g·f⌉` days and the
smaller one the rest -/
theorem C13_share_bounded_rounding (m : Mode) (f : Fac) (ρ : Rounding) (hb : BoundedBy f ρ)
    (S E : Int) (recs : List Rec) :
    ∀ kw ∈ report m ρ S E recs, ShareWithin f kw.2 :=
  forall_mem_report fun _ => shareWithin_winsFrom f ρ hb _ none (sorted_sortByDate _)

/-- the exact rounding is `f`-bounded (so the theorem above is not vacuous) -/
theorem C13_exact_rounding_bounded (f : Fac) (hq : 0 < f.q) : BoundedBy f (exactRounding f) := by
  intro g _
  rw [exact_lo_eq_floor f hq g, exact_hi_eq_ceil f hq g]
  have := Int.floor_le_ceil ((g : ℚ) * f.ratio)
  exact ⟨⟨le_refl _, this⟩, this, le_refl _⟩

theorem C13_volume (scale : Nat) (hs : 0 < scale) (ws : List Win) : VolumeOK scale ws := by
  intro w _
  unfold Win.volNum Win.days
  push_cast
  -- no cancellation of `scale` is needed (`(10·s)⁻¹ = 10⁻¹·s⁻¹` in any field), so `hs` is not used
  ring

/-- every window belongs to exactly the survey row it extrapolates: the windows of a group carry,
in order, the dates and measured rates of the group's sorted rows -/
theorem C13_windows_rows (ρ : Rounding) (rows : List Row) (prev : Option Row) :
    (winsFrom ρ prev rows).map (fun w => (w.date, w.rate)) = rows.map (fun r => (r.date, r.rate)) := by
  induction rows generalizing prev with
  | nil => simp [winsFrom]
  | cons x rest ih => rw [winsFrom_cons]; simp [ih]

theorem C13_groups_cover (m : Mode) (ρ : Rounding) (S E : Int) (recs : List Rec) :
    ∀ r ∈ relevant m recs, ∃ kw ∈ report m ρ S E recs, kw.1 = keyOf m r :=
  fun r hr => ⟨_, List.mem_map.mpr ⟨keyOf m r, (mem_dedup _ _).mpr (List.mem_map.mpr ⟨r, hr, rfl⟩), rfl⟩, rfl⟩

theorem C13 : C13_statement := by
  intro m f S E scale recs hf hs hSE hb
  refine ⟨C13_groups_cover m _ S E recs, ?_⟩
  intro kw hkw
  exact ⟨C13_tiling m f S E recs hf hSE hb kw hkw, C13_share m f S E recs hf.1 kw hkw,
    C13_volume scale hs kw.2⟩

/-! ### which days the windows cover (the end-date reading)

A window `[start, stop)` carries `stop − start` days of volume, so the windows of a group cover the
days `S, …, E − 1`: `E − S` days.  The simulator runs through the end date inclusive
(`TimeCounter.at_simulation_end`: `current_date > end_date`), i.e. `E − S + 1` days: the last
simulated day lies in no estimation window (known finding F7c). -/

theorem C13_days_covered (S E : Int) (ws : List Win) (h : Tiles S E ws) :
    (ws.map Win.days).sum = E - S := by
  induction ws generalizing S with
  | nil => simp only [Tiles] at h; simp; omega
  | cons w ws ih =>
    obtain ⟨h1, _, h3⟩ := h
    have := ih w.stop h3
    simp only [List.map_cons, List.sum_cons, Win.days]
    omega

/-- the reading "the windows partition the simulated days `S … E` inclusive" -/
def C13_inclusive_statement : Prop :=
  ∀ (m : Mode) (f : Fac) (S E : Int) (recs : List Rec),
    f.Valid → S ≤ E → (∀ r ∈ recs, S ≤ r.date ∧ r.date ≤ E) →
    ∀ kw ∈ report m (exactRounding f) S E recs, Tiles S (E + 1) kw.2

/-- … is false of the code: the last window ends on the end date, the last simulated day is
covered by no window (witness: one survey on day 10 of the period 0..30, f = 1/2) -/
theorem C13_inclusive_counterexample : ¬ C13_inclusive_statement := by
  intro h
  have := h .site { p := 1, q := 2 } 0 30
    [{ site := 1, eqg := none, comp := none, date := 10, rate := 8 }]
    (by decide) (by decide) (by decide) _ (List.mem_cons_self ..)
  revert this
  decide +kernel

/-- calendar: moving the period and every report of a group by `k` days (e.g. by exactly one year,
365 or 366 days) moves its windows by `k` days — the computation only sees differences of dates,
for every rounding -/
theorem C13_shift_invariance (ρ : Rounding) (k S E : Int) (rows : List Row) :
    groupWins ρ (S + k) (E + k) (rows.map (Row.shift k)) = (groupWins ρ S E rows).map (Win.shift k) :=
  groupWins_shift ρ k S E rows

/-- frame / history independence: the windows of a group are a function of the reports of the
group's own site, the period and the rounding alone — reports of other sites in the table (and,
the model being a function, any earlier report computation) do not influence them -/
theorem C13_site_frame (m : Mode) (ρ : Rounding) (S E : Int) (recs : List Rec) :
    ∀ kw ∈ report m ρ S E recs,
      kw.2 = groupWins ρ S E (groupInput m (recs.filter (fun r => r.site = kw.1.site)) kw.1) :=
  forall_mem_report fun k => by rw [groupInput_frame]

/-- non-vacuity: the witness of the defect that was repaired (f = 7/10, surveys on day 10 and 20 of
a 30-day period, rates 1 and 2 g/s): the hypotheses hold and the windows are
[0,3) [3,13) [13,27) [27,30) -/
example :
    let f : Fac := { p := 7, q := 10 }
    let recs : List Rec := [{ site := 1, eqg := none, comp := none, date := 10, rate := 8 },
                            { site := 1, eqg := none, comp := none, date := 20, rate := 16 }]
    f.Valid ∧ (∀ r ∈ recs, (0 : Int) ≤ r.date ∧ r.date ≤ 30) ∧
    (report .site (exactRounding f) 0 30 recs).map (fun kw => kw.2.map (fun w => (w.start, w.stop)))
      = [[(0, 3), (3, 13), (13, 27), (27, 30)]] := by
  decide +kernel

/-- non-vacuity, component mode: two components of one site surveyed on different days, equal
dates and a survey on the first day -/
example :
    let f : Fac := { p := 1, q := 3 }
    let recs : List Rec := [{ site := 1, eqg := some 1, comp := some 1, date := 10, rate := 8 },
                            { site := 1, eqg := some 1, comp := some 2, date := 20, rate := 16 },
                            { site := 1, eqg := some 1, comp := some 2, date := 20, rate := 4 },
                            { site := 1, eqg := some 1, comp := some 2, date := 0, rate := 4 },
                            { site := 1, eqg := none, comp := none, date := 5, rate := 3 }]
    (report .comp (exactRounding f) 0 30 recs).map (fun kw => kw.2.map (fun w => (w.start, w.stop)))
      = [[(0, 0), (0, 6), (6, 13), (13, 23), (23, 30)],
         [(0, 0), (0, 3), (3, 16), (16, 20), (20, 23), (23, 30)]] := by
  decide +kernel

end LdarModel.Window
