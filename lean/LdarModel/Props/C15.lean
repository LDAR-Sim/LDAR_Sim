import LdarModel.Lemmas.Propagate
import LdarModel.Generated.Levels
/-
C15 — virtual-world parameters: most granular level wins, site totals are conserved.

Model: `Model/Propagate.lean` (one function per method of infrastructure.py / sites.py /
equipment_groups.py / component.py / sources.py; the propagating-parameter dictionary is passed from
level to level exactly as the code does).  Key tables: `Generated/Levels.lean`, rewritten from the
source on every run.  Helper lemmas: `Lemmas/Propagate.lean`.

Contents
  1. `resolve`: the most granular level that specifies a parameter wins, for every list of levels
     (list induction, not an enumeration of the 2⁵ subsets); unspecified levels are neutral.
  2. Obligations over the generated key tables: same key at every level; the un-prefixing rule.
  3. The dictionary-passing model equals the `resolve` closed form at every source, equipment group
     and site (for all rows, under well-formedness of the tables).
  4. Quantities given per site (production rate, survey time, survey cost) add back up (ℚ).
  5. Exactly `n` distinct sites with the structure the files describe; the production rate is
     conserved at the sources as well.
  6. `C15_statement` and its proof.
-/
namespace LdarModel.Propagate
open LdarModel.Generated.Levels

/-! ## 1. most granular wins -/

/-- the value of the last level that specifies the parameter is the one in effect, whatever the
less granular levels (`pre`) say and however many unspecified levels follow -/
theorem most_granular_wins {V : Type} (pre post : List (Option V)) (v g : V)
    (h : ∀ o ∈ post, o = none) : resolve (pre ++ some v :: post) g = v := by
  rw [resolve_append, resolve_cons]
  exact resolve_all_none post _ h

/-- no level specifies it: the global value stays in effect -/
theorem most_granular_wins_global {V : Type} (levels : List (Option V)) (g : V)
    (h : ∀ o ∈ levels, o = none) : resolve levels g = g :=
  resolve_all_none levels g h

/-- the same as one equation, for every list of levels: scanning from the most granular end, the
first specified value, else the global one -/
theorem resolve_eq_last_specified {V : Type} (levels : List (Option V)) (g : V) :
    resolve levels g = (levels.reverse.findSome? id).getD g := by
  induction levels generalizing g with
  | nil => rfl
  | cons o l ih =>
    rw [resolve_cons, ih, List.reverse_cons, List.findSome?_append]
    cases h : l.reverse.findSome? id with
    | some v => simp
    | none => cases o <;> simp

/-- a level that does not specify the parameter leaves it untouched, wherever it sits in the chain -/
theorem unspecified_is_identity {V : Type} (l1 l2 : List (Option V)) (g : V) :
    resolve (l1 ++ none :: l2) g = resolve (l1 ++ l2) g := by
  simp [resolve_append]

/-- a more granular level is never overridden by a less granular one -/
theorem granular_overrides_coarse {V : Type} (coarse : List (Option V)) (v g g' : V)
    (fine : List (Option V)) :
    resolve (coarse ++ some v :: fine) g = resolve (some v :: fine) g' := by
  rw [resolve_append]
  simp

/-! ## 2. obligations over the generated tables

Finite facts, proved by evaluation: by `simp` with the table unfolded where only string literals are
compared, by the kernel where strings are taken apart. -/

/-- every propagating parameter uses the same key at every level where it may be specified
(global mapping, site type file, sites file, equipment file; method-specific ones likewise) -/
theorem tables_same_key_every_level : tables.SameKeys := by
  simp [Tables.SameKeys, tables, Tables.allMeth, Tables.groupMeth]

/-- the scaled entries are the two production rates (the ones the component split divides) and
survey time / cost; each is listed once -/
theorem tables_scaled_entries : tables.ScaleOK := by decide +kernel

/-- what the site and the equipment group take out of the method-specific dictionary -/
theorem tables_pops : tables.PopsOK := by
  simp [Tables.PopsOK, tables, Tables.groupMeth, Tables.sourceMeth, Tables.allMeth]

/-- both obligations about the un-prefixing rule in one evaluation, restated on character lists: this
way the kernel decodes every key once -/
theorem tables_unprefix_rule_and_shared_dict : tables.UnprefixOK ∧ tables.SharedOK := by
  simp only [Tables.UnprefixOK, Tables.SharedOK, hasInfix, ne_eq, removeAll_eq_iff, toList_removeAll,
    String.toList_append, ← String.toList_inj (s₂ := _ ++ _), mem_iff_toList_mem (_ ++ _)]
  decide +kernel

/-- the un-prefixing rule of `Source._update_prop_params` maps each prefixed key to the key the source
reads, no other key of the dictionary to that key, and never writes a prefixed key -/
theorem tables_unprefix_rule : tables.UnprefixOK := tables_unprefix_rule_and_shared_dict.1

theorem tables_placeholder_shared_dict : tables.SharedOK := tables_unprefix_rule_and_shared_dict.2

theorem tables_wf : tables.WF :=
  ⟨tables_same_key_every_level, tables_scaled_entries, tables_pops, tables_unprefix_rule⟩

/-- constant by constant: the key of a plain propagating parameter is the same in the site type file,
the sites file and the equipment file, and all three levels have it -/
theorem tables_level_keys_agree :
    ∀ r ∈ levelKeys, r.2.1.isSome = true ∧ r.2.1 = r.2.2.1 ∧ r.2.2.1 = r.2.2.2 := by simp [levelKeys]

/-- constant by constant: wherever a level has a method-specific parameter, its suffix is the one of
the sites file -/
theorem tables_level_meth_keys_agree :
    ∀ r ∈ levelMethKeys,
      r.2.2.1.isSome = true ∧ r.2.1 = r.2.2.1 ∧
      (r.2.2.2.1.isSome = true → r.2.2.2.1 = r.2.2.1) ∧
      (r.2.2.2.2.isSome = true → r.2.2.2.2 = r.2.2.1) := by simp [levelMethKeys]

/-- the per-constant table and the loop lists describe the same keys -/
theorem tables_level_keys_cover :
    (∀ k ∈ tables.sitePlain, ∃ r ∈ levelKeys, r.2.2.1 = some k) ∧
    (∀ r ∈ levelKeys, ∀ k, r.2.2.1 = some k → k ∈ tables.sitePlain) := by decide +kernel

/-- every plain propagating parameter has an access path into the virtual-world parameters, every
method-specific one into the method parameters -/
theorem tables_global_paths :
    globalPlainPaths.map (·.1) = tables.globalPlain ∧ globalMethPaths.map (·.1) = tables.globalMeth := by
  simp [globalPlainPaths, globalMethPaths, tables]

/-- nothing in the five world-building modules can carry state from one construction to the next or
between sibling objects: no module- or class-level mutable container, no caching decorator, no copy
hook, no in-place mutation of a constants list (directly, through an alias or through the class) -/
theorem tables_no_shared_state : sharedStateHazards = [] := by decide

/-- pickling round trip: every class hands `_reconstruct` as many arguments as it accepts, and each
argument lands in the attribute it was read from -/
theorem tables_reduce_roundtrip :
    reduceTable.map (·.1) = ["Infrastructure", "Site", "Equipment_Group", "Component", "Source"] ∧
    ∀ r ∈ reduceTable, r.2.2.1 ≤ r.2.1 ∧ r.2.1 ≤ r.2.2.2.1 ∧ r.2.2.2.2 = true := by simp [reduceTable]

/-! ## 3. the model of the code equals the closed form -/

/-- the levels of one chain, for the column `c`: site type (if any), site, equipment group -/
def upper (T : Option Row) (S E : Row) (c : String) : List (Option PV) :=
  [typeGet T c, S.get? c, E.get? c]

section
variable {tb : Tables} {methods : List String} {G : Dict String} {Gm : Dict MKey} {T : Option Row}
  {S E R : Row} {nG : Rat} {rep : Bool} {sk : String}

theorem get_unprefixLoop_compCtx (hw : tb.WF) (hsk : sk ∈ tb.srcKeysFor rep) :
    (unprefixLoop (tb.prefixOf rep) R (compCtx tb methods G Gm T S E nG)).get sk
      = (R.get? sk).getD ((compCtx tb methods G Gm T S E nG).get (tb.prefixOf rep ++ sk)) := by
  obtain ⟨hkey, hin, hu, h2, h3⟩ := hw.2.2.2 rep (mem_bools rep) sk hsk
  have hk : ∀ k, k ∈ (compCtx tb methods G Gm T S E nG).keys ↔ k ∈ tb.globalPlain :=
    fun _ => mem_keys_compCtx hw.1
  exact get_unprefixLoop hu hin ((hk _).mpr hkey)
    (fun k' hk' => h2 k' ((hk k').mp hk')) (fun k' hk' => h3 k' ((hk k').mp hk'))

/-- every key the source level reads: the dictionary-passing model yields the value prescribed by the
chain of levels; scaled entries are divided by the number of groups below the site and by the number
of components below the group, everything else is handed down unchanged -/
theorem source_key_spec (hw : tb.WF) (hsk : sk ∈ tb.srcKeysFor rep) :
    (unprefixLoop (tb.prefixOf rep) R (compCtx tb methods G Gm T S E nG)).get sk
      = resolve [R.get? sk]
          (if tb.prefixOf rep ++ sk ∈ tb.scalePlain then
            (resolve [E.get? (tb.prefixOf rep ++ sk)]
              ((resolve [typeGet T (tb.prefixOf rep ++ sk), S.get? (tb.prefixOf rep ++ sk)]
                (G.get (tb.prefixOf rep ++ sk))).divBy nG)).divPos (totalComponents tb E)
          else resolve (upper T S E (tb.prefixOf rep ++ sk)) (G.get (tb.prefixOf rep ++ sk))) := by
  rw [get_unprefixLoop_compCtx hw hsk, get_compCtx hw.1 hw.2.1 (hw.2.2.2 rep (mem_bools rep) sk hsk).1]
  rfl

end

/-- **most granular level wins at the source**: rate source, duration, multiple-emissions flag and
(repairable sources) repair delay and cost in effect at a source are those of the most granular of
source row, equipment row, site row, site type row that specifies them, else the global value -/
theorem source_most_granular_wins (tb : Tables) (hw : tb.WF) (methods : List String)
    (G : Dict String) (Gm : Dict MKey) (T : Option Row) (S E R : Row) (nG : Rat) (sid : String)
    (rep : Bool) (m : Dict MKey) :
    let s := sourceEff tb methods sid rep R (compCtx tb methods G Gm T S E nG) m
    let chain := fun sk => resolve (upper T S E (tb.prefixOf rep ++ sk) ++ [R.get? sk])
                              (G.get (tb.prefixOf rep ++ sk))
    s.ers = chain tb.srcErs ∧ s.dur = chain tb.srcDur ∧ s.multi = chain tb.srcMulti ∧
    (rep = true → s.rd = chain tb.srcRd ∧ s.rc = chain tb.srcRc) ∧
    (rep = false → s.rd = .nul ∧ s.rc = .nul) := by
  intro s chain
  have hp := hw.pops
  have key : ∀ sk ∈ tb.srcKeysFor rep, sk ≠ tb.srcEpr →
      (unprefixLoop (tb.prefixOf rep) R (compCtx tb methods G Gm T S E nG)).get sk = chain sk := by
    intro sk hsk hne
    rw [source_key_spec hw hsk,
      if_neg (mt (hw.scale.scaledIff rep (mem_bools rep) sk hsk).mp hne)]
    rfl
  obtain ⟨e1, -, e3, e4, e5, e6⟩ := sourceEff_plain tb methods sid rep R (compCtx tb methods G Gm T S E nG) m
  exact ⟨e1.trans (key _ (by simp [Tables.srcKeysFor]) hp.ersNe),
    e3.trans (key _ (by simp [Tables.srcKeysFor]) hp.durNe),
    e4.trans (key _ (by simp [Tables.srcKeysFor]) hp.multiNe),
    fun hr => ⟨(e5 hr).1.trans (key _ (by simp [Tables.srcKeysFor, hr]) hp.rdNe),
      (e5 hr).2.trans (key _ (by simp [Tables.srcKeysFor, hr]) hp.rcNe)⟩, e6⟩

/-- the production rate in effect at a source: the site's value (most granular of site, site type,
global) divided by the number of equipment groups, replaced by the equipment row's value if given,
divided by the group's component count when positive, replaced by the source row's value if given -/
theorem source_production_rate_spec (tb : Tables) (hw : tb.WF) (methods : List String)
    (G : Dict String) (Gm : Dict MKey) (T : Option Row) (S E R : Row) (nG : Rat) (sid : String)
    (rep : Bool) (m : Dict MKey) :
    (sourceEff tb methods sid rep R (compCtx tb methods G Gm T S E nG) m).epr
      = resolve [R.get? tb.srcEpr]
          ((resolve [E.get? (tb.prefixOf rep ++ tb.srcEpr)]
            ((resolve [typeGet T (tb.prefixOf rep ++ tb.srcEpr), S.get? (tb.prefixOf rep ++ tb.srcEpr)]
                (G.get (tb.prefixOf rep ++ tb.srcEpr))).divBy nG)).divPos (totalComponents tb E)) := by
  have e : tb.srcEpr ∈ tb.srcKeysFor rep := by simp [Tables.srcKeysFor]
  rw [(sourceEff_plain tb methods sid rep R _ m).2.1, source_key_spec hw e,
    if_pos ((hw.scale.scaledIff rep (mem_bools rep) _ e).mpr rfl)]

/-- spatial and temporal coverage of every method at a source: most granular of source row,
equipment row, site row, site type row, else the method's parameter file -/
theorem source_coverage_most_granular_wins (tb : Tables) (hw : tb.WF) (methods : List String)
    (G : Dict String) (Gm : Dict MKey) (T : Option Row) (S E R : Row) (nG : Rat) (sid : String)
    (rep : Bool) (d : Dict String) :
    let s := sourceEff tb methods sid rep R d (groupCtx tb methods G Gm T S E nG).2
    s.spatial = methods.map (fun me =>
        resolve (upper T S E (me ++ tb.srcSpatial) ++ [R.get? (me ++ tb.srcSpatial)]) (gmVal tb Gm (me, tb.srcSpatial)))
    ∧ s.temporal = methods.map (fun me =>
        resolve (upper T S E (me ++ tb.srcTemporal) ++ [R.get? (me ++ tb.srcTemporal)]) (gmVal tb Gm (me, tb.srcTemporal))) := by
  intro s
  have hp := hw.pops
  have one : ∀ p, p ∈ tb.globalMeth → p ∈ tb.sourceMeth → p ∉ tb.scaleMeth → ∀ me ∈ methods,
      (updFrom MKey.col (methKeys methods tb.sourceMeth) R (groupCtx tb methods G Gm T S E nG).2).get (me, p)
        = resolve (upper T S E (me ++ p) ++ [R.get? (me ++ p)]) (gmVal tb Gm (me, p)) := by
    intro p hpg hps hpn me hme
    rw [get_updFrom, if_pos ((mem_methKeys _ _ _ _).mpr ⟨hme, hps⟩),
      get_groupMeth hw.1 hme (List.mem_filter.mp hps).1, if_neg hpn, get_globalMeth_of_mem hme hpg]
    rfl
  exact ⟨List.map_congr_left (one _ hp.spG hp.spSrc hp.spNotScaled),
    List.map_congr_left (one _ hp.tmG hp.tmSrc hp.tmNotScaled)⟩

/-- the equipment group `gid` (equipment row `E`) of a site with site row `S`, site type row `T`,
when the site has `nG` groups: exactly the call `Site._create_equipment_groups` makes -/
def groupAt (tb : Tables) (methods : List String) (files : Files) (G : Dict String) (Gm : Dict MKey)
    (T : Option Row) (S : Row) (gid : String) (E : Row) (nG : Rat) : GroupEff :=
  buildGroup tb methods files gid E
    (scaleKeys tb.scalePlain nG (siteDicts tb methods G Gm T S).1)
    (scaleKeys (methKeys methods tb.scaleMeth) nG (siteDicts tb methods G Gm T S).2)

/-- site type row of a site (`none` without a site type file) -/
def typeRowOf (files : Files) (s : SiteRow) : Option Row := (findType files s).map (·.cells)

/-- the groups of a site as the files describe them: (id, equipment row, divisor) -/
def groupsOf (tb : Tables) (methods : List String) (G : Dict String) (Gm : Dict MKey) (files : Files)
    (s : SiteRow) : List (String × Row × Rat) :=
  siteGroups tb files (equipFor files s (findType files s))
    (siteDicts tb methods G Gm (typeRowOf files s) s.cells).1

theorem buildSite_groups (tb : Tables) (methods : List String) (G : Dict String) (Gm : Dict MKey)
    (files : Files) (s : SiteRow) :
    (buildSite tb methods G Gm files s).groups
      = (groupsOf tb methods G Gm files s).map (fun g =>
          groupAt tb methods files G Gm (typeRowOf files s) s.cells g.1 g.2.1 g.2.2) := rfl

theorem groupAt_comps (tb : Tables) (methods : List String) (files : Files) (G : Dict String)
    (Gm : Dict MKey) (T : Option Row) (S : Row) (gid : String) (E : Row) (nG : Rat) :
    (groupAt tb methods files G Gm T S gid E nG).comps
      = (cleanedCells tb E).flatMap (fun c => (List.range (cellCount c.2)).map (fun i =>
          { cid := compType c.1 ++ "_" ++ toString i,
            repRate := (compCtx tb methods G Gm T S E nG).get tb.eqRepEpr,
            nonRate := (compCtx tb methods G Gm T S E nG).get tb.eqNonRepEpr,
            sources := componentSources tb methods files (compType c.1)
                         (compCtx tb methods G Gm T S E nG) (groupCtx tb methods G Gm T S E nG).2 })) := rfl

/-- survey time and cost of an equipment group, per method: the equipment row's value if given, else
the site's value (most granular of site, site type, method file) divided by the number of groups -/
theorem group_survey_spec (tb : Tables) (hw : tb.WF) (methods : List String) (files : Files)
    (G : Dict String) (Gm : Dict MKey) (T : Option Row) (S : Row) (gid : String) (E : Row) (nG : Rat) :
    let g := groupAt tb methods files G Gm T S gid E nG
    let spec := fun p me => resolve [E.get? (me ++ p)]
        ((resolve [typeGet T (me ++ p), S.get? (me ++ p)] (gmVal tb Gm (me, p))).divBy nG)
    g.gid = gid ∧ g.times = methods.map (spec tb.eqTimeKey) ∧ g.costs = methods.map (spec tb.eqCostKey) := by
  intro g spec
  have hp := hw.pops
  have one : ∀ p, p ∈ tb.globalMeth → p ∈ tb.groupMeth → p ∈ tb.scaleMeth → ∀ me ∈ methods,
      (groupCtx tb methods G Gm T S E nG).2.get (me, p) = spec p me := by
    intro p hpg hpgm hpsc me hme
    rw [get_groupMeth hw.1 hme hpgm, if_pos hpsc, get_globalMeth_of_mem hme hpg]
  exact ⟨rfl, List.map_congr_left (one _ hp.timeG hp.timeGrp hw.scale.timeIn),
    List.map_congr_left (one _ hp.costG hp.costGrp hw.scale.costIn)⟩

/-- survey frequency, deployment months / years and site deployment of a site, per method: most
granular of site row and site type row, else the method's parameter file (site deployment: `True`) -/
theorem site_most_granular_wins (tb : Tables) (hw : tb.WF) (methods : List String)
    (G : Dict String) (Gm : Dict MKey) (files : Files) (s : SiteRow) :
    let site := buildSite tb methods G Gm files s
    let T := typeRowOf files s
    let spec := fun p g me => resolve [typeGet T (me ++ p), s.cells.get? (me ++ p)] (g me)
    site.sid = s.sid ∧ site.stype = s.stype ∧
    site.freq = methods.map (spec tb.freqKey (fun me => gmVal tb Gm (me, tb.freqKey))) ∧
    site.months = methods.map (spec tb.monthsKey (fun me => gmVal tb Gm (me, tb.monthsKey))) ∧
    site.years = methods.map (spec tb.yearsKey (fun me => gmVal tb Gm (me, tb.yearsKey))) ∧
    site.deploy = methods.map (spec tb.siteDeploy (fun _ => PV.tru)) := by
  intro site T spec
  have hp := hw.pops
  have one : ∀ p ∈ tb.globalMeth, ∀ me ∈ methods,
      (siteDicts tb methods G Gm T s.cells).2.get (me, p) = spec p (fun me => gmVal tb Gm (me, p)) me := by
    intro p hpg me hme
    rw [get_siteMeth hw.1 hme (List.mem_append_left _ hpg), get_globalMeth_of_mem hme hpg]
  have dep : ∀ me ∈ methods,
      (siteDicts tb methods G Gm T s.cells).2.get (me, tb.deployKey) = spec tb.siteDeploy (fun _ => PV.tru) me := by
    intro me hme
    rw [hp.deployEq, get_siteMeth hw.1 hme (by simp [Tables.allMeth]), get_globalMeth,
      if_neg (hp.deployNotG ∘ And.right), if_pos ⟨hme, rfl⟩]
  exact ⟨rfl, rfl, List.map_congr_left (one _ hp.freqG), List.map_congr_left (one _ hp.monthsG),
    List.map_congr_left (one _ hp.yearsG), List.map_congr_left dep⟩

/-! ## 4. quantities given per site add back up -/

/-- survey time and cost: the site value split over `n` groups adds back up -/
theorem survey_split_conserved (x : Rat) (n : Nat) (hn : n ≠ 0) :
    (List.replicate n (x / (n : Rat))).sum = x := by
  rw [sum_replicate_rat]
  exact mul_div_cancel_nat x n hn

/-- arithmetic of the split: a site value `x` divided by the number of groups and, in each group, by
that group's number of components, summed over all components of all groups, is `x` again (ℚ) -/
theorem split_conserved (x : Rat) (cs : List Nat) (hne : cs ≠ []) (hpos : ∀ c ∈ cs, c ≠ 0) :
    (cs.map (fun c => (List.replicate c (x / (cs.length : Rat) / (c : Rat))).sum)).sum = x := by
  rw [sum_map_eq_const cs _ _ fun c hc => survey_split_conserved _ c (hpos c hc)]
  exact mul_div_cancel_nat x cs.length (mt List.length_eq_zero_iff.mp hne)

/-- the placeholder split: `k` groups of `⌈c/k⌉` placeholder components each -/
theorem placeholder_split_conserved (x : Rat) (k m : Nat) (hk : k ≠ 0) (hm : m ≠ 0) :
    ((List.replicate k m).map (fun c => (List.replicate c (x / (k : Rat) / (c : Rat))).sum)).sum = x := by
  simpa using split_conserved x (List.replicate k m) (by simpa using hk)
    (fun c hc => (List.mem_replicate.mp hc).2 ▸ hm)

theorem sumPV_shares (x : Rat) (n : Nat) (hn : n ≠ 0) :
    sumPV (List.replicate n (.num (x / (n : Rat)))) = some x := by
  rw [← List.map_replicate, sumPV_nums, survey_split_conserved x n hn]

/-- a site's equipment groups do not override `col` -/
def NoGroupOverride (gs : List (String × Row × Rat)) (col : String) : Prop :=
  ∀ g ∈ gs, g.2.1.get? col = none

instance (gs : List (String × Row × Rat)) (col : String) : Decidable (NoGroupOverride gs col) := by
  unfold NoGroupOverride; infer_instance

theorem site_rate_split {tb : Tables} (hw : tb.WF) {methods : List String}
    {G : Dict String} {Gm : Dict MKey} {files : Files} {s : SiteRow} {x : Rat} (hx : 0 ≤ x) {k : String}
    (hk : k ∈ tb.scalePlain) (hkG : k ∈ tb.globalPlain)
    (hsite : resolve [typeGet (typeRowOf files s) k, s.cells.get? k] (G.get k) = .num x)
    (hgs : groupsOf tb methods G Gm files s ≠ [])
    (hint : (equipFor files s (findType files s)).Integral)
    (hno : NoGroupOverride (groupsOf tb methods G Gm files s) k)
    (hcomp : ∀ g ∈ groupsOf tb methods G Gm files s, totalComponents tb g.2.1 ≠ 0) :
    ((groupsOf tb methods G Gm files s).map (fun g => (List.replicate (totalComponents tb g.2.1)
        (numOf ((compCtx tb methods G Gm (typeRowOf files s) s.cells g.2.1 g.2.2).get k))).sum)).sum = x := by
  have hpos : (0 : Rat) < (groupsOf tb methods G Gm files s).length :=
    Rat.natCast_pos.mpr (List.length_pos_iff.mpr hgs)
  have each : ∀ g ∈ groupsOf tb methods G Gm files s,
      numOf ((compCtx tb methods G Gm (typeRowOf files s) s.cells g.2.1 g.2.2).get k)
        = x / ((groupsOf tb methods G Gm files s).length : Rat) / (totalComponents tb g.2.1 : Rat) := by
    intro g hg
    rw [get_compCtx hw.1 hw.2.1 hkG, if_pos hk, hsite, hno g hg, siteGroups_divisor hint hg]
    exact numOf_divBy_divPos x _ _ hpos hx
  rw [List.map_congr_left fun g hg => by rw [each g hg]]
  simpa [Function.comp_def] using
    split_conserved x ((groupsOf tb methods G Gm files s).map fun g => totalComponents tb g.2.1)
      (by simpa using hgs) (by simp only [List.forall_mem_map]; exact hcomp)

/-- **production rate conserved in the model of the code**: for a site whose equipment cell names
groups or is a whole number, whose groups all have components and whose equipment rows do not override
the rate, the rates the components hand to their sources add up, over all components of all equipment
groups, to the site's value (repairable rate; `…_nonrep` for the other one) -/
theorem site_production_rate_conserved (tb : Tables) (hw : tb.WF) (methods : List String)
    (G : Dict String) (Gm : Dict MKey) (files : Files) (s : SiteRow) (x : Rat) (hx : 0 ≤ x)
    (hsite : resolve [typeGet (typeRowOf files s) tb.eqRepEpr, s.cells.get? tb.eqRepEpr] (G.get tb.eqRepEpr) = .num x)
    (hgs : groupsOf tb methods G Gm files s ≠ [])
    (hint : (equipFor files s (findType files s)).Integral)
    (hno : NoGroupOverride (groupsOf tb methods G Gm files s) tb.eqRepEpr)
    (hcomp : ∀ g ∈ groupsOf tb methods G Gm files s, totalComponents tb g.2.1 ≠ 0) :
    ((buildSite tb methods G Gm files s).groups.map
        (fun g => (g.comps.map (fun c => numOf c.repRate)).sum)).sum = x := by
  refine Eq.trans ?_ (site_rate_split hw hx hw.scale.repIn hw.scale.repG hsite hgs hint hno hcomp)
  rw [buildSite_groups, List.map_map]
  refine congrArg List.sum (List.map_congr_left fun g _ => ?_)
  rw [Function.comp, groupAt_comps, List.map_flatMap]
  simp only [List.map_map, Function.comp_def, flatMap_range_const]
  rfl

theorem site_production_rate_conserved_nonrep (tb : Tables) (hw : tb.WF) (methods : List String)
    (G : Dict String) (Gm : Dict MKey) (files : Files) (s : SiteRow) (x : Rat) (hx : 0 ≤ x)
    (hsite : resolve [typeGet (typeRowOf files s) tb.eqNonRepEpr, s.cells.get? tb.eqNonRepEpr] (G.get tb.eqNonRepEpr) = .num x)
    (hgs : groupsOf tb methods G Gm files s ≠ [])
    (hint : (equipFor files s (findType files s)).Integral)
    (hno : NoGroupOverride (groupsOf tb methods G Gm files s) tb.eqNonRepEpr)
    (hcomp : ∀ g ∈ groupsOf tb methods G Gm files s, totalComponents tb g.2.1 ≠ 0) :
    ((buildSite tb methods G Gm files s).groups.map
        (fun g => (g.comps.map (fun c => numOf c.nonRate)).sum)).sum = x := by
  refine Eq.trans ?_ (site_rate_split hw hx hw.scale.nonIn hw.scale.nonG hsite hgs hint hno hcomp)
  rw [buildSite_groups, List.map_map]
  refine congrArg List.sum (List.map_congr_left fun g _ => ?_)
  rw [Function.comp, groupAt_comps, List.map_flatMap]
  simp only [List.map_map, Function.comp_def, flatMap_range_const]
  rfl

private theorem getD_map_get {α β : Type} (l : List α) (f : α → β) (i : Nat) (hi : i < l.length) (d : β) :
    (l.map f).getD i d = f l[i] := by
  simp [List.getD_eq_getElem?_getD, hi]

/-- `vals`: the times or the costs of a group, `p` their key -/
private theorem group_values_no_override {tb : Tables} {methods : List String}
    {G : Dict String} {Gm : Dict MKey} {files : Files} {s : SiteRow} {i : Nat}
    (hi : i < methods.length) {x : Rat} {p : String} (vals : GroupEff → List PV)
    (hvals : ∀ (T : Option Row) (S : Row) (gid : String) (E : Row) (nG : Rat),
      vals (groupAt tb methods files G Gm T S gid E nG) = methods.map (fun me => resolve [E.get? (me ++ p)]
        ((resolve [typeGet T (me ++ p), S.get? (me ++ p)] (gmVal tb Gm (me, p))).divBy nG)))
    (hsite : resolve [typeGet (typeRowOf files s) (methods[i] ++ p), s.cells.get? (methods[i] ++ p)]
                (gmVal tb Gm (methods[i], p)) = .num x)
    (hint : (equipFor files s (findType files s)).Integral)
    (hno : NoGroupOverride (groupsOf tb methods G Gm files s) (methods[i] ++ p)) :
    (buildSite tb methods G Gm files s).groups.map (fun g => (vals g).getD i .nul)
      = List.replicate (groupsOf tb methods G Gm files s).length
          (.num (x / ((groupsOf tb methods G Gm files s).length : Rat))) := by
  rw [buildSite_groups, List.map_map, List.eq_replicate_iff]
  refine ⟨List.length_map _, fun v hv => ?_⟩
  obtain ⟨g, hg, rfl⟩ := List.mem_map.mp hv
  rw [Function.comp, hvals, getD_map_get _ _ _ hi, hno g hg, hsite, siteGroups_divisor hint hg]
  rfl

/-- **survey cost conserved**: when the equipment cell names groups or is a whole number and no
equipment row overrides it, the site's survey cost for a method is the site-level value again
(`Σ groups (x / n) = x`) -/
theorem site_cost_conserved (tb : Tables) (hw : tb.WF) (methods : List String)
    (G : Dict String) (Gm : Dict MKey) (files : Files) (s : SiteRow) (i : Nat)
    (hi : i < methods.length) (x : Rat)
    (hsite : resolve [typeGet (typeRowOf files s) (methods[i] ++ tb.eqCostKey),
                      s.cells.get? (methods[i] ++ tb.eqCostKey)] (gmVal tb Gm (methods[i], tb.eqCostKey)) = .num x)
    (hgs : groupsOf tb methods G Gm files s ≠ [])
    (hint : (equipFor files s (findType files s)).Integral)
    (hno : NoGroupOverride (groupsOf tb methods G Gm files s) (methods[i] ++ tb.eqCostKey)) :
    (buildSite tb methods G Gm files s).cost.getD i .nul = .num x := by
  show ((List.range methods.length).map (siteCost (buildSite tb methods G Gm files s).groups)).getD i .nul = _
  rw [getD_map_get _ _ i (by simpa using hi), List.getElem_range, siteCost,
    group_values_no_override hi (·.costs)
      (fun T S gid E nG => (group_survey_spec tb hw methods files G Gm T S gid E nG).2.2) hsite hint hno,
    sumPV_shares x _ (mt List.length_eq_zero_iff.mp hgs)]

/-- **survey time conserved**: under the same conditions the site's survey time for a method is the
site-level value, rounded as `get_method_survey_time` rounds it -/
theorem site_time_conserved (tb : Tables) (hw : tb.WF) (methods : List String)
    (G : Dict String) (Gm : Dict MKey) (files : Files) (s : SiteRow) (i : Nat)
    (hi : i < methods.length) (x : Rat)
    (hsite : resolve [typeGet (typeRowOf files s) (methods[i] ++ tb.eqTimeKey),
                      s.cells.get? (methods[i] ++ tb.eqTimeKey)] (gmVal tb Gm (methods[i], tb.eqTimeKey)) = .num x)
    (hgs : groupsOf tb methods G Gm files s ≠ [])
    (hint : (equipFor files s (findType files s)).Integral)
    (hno : NoGroupOverride (groupsOf tb methods G Gm files s) (methods[i] ++ tb.eqTimeKey)) :
    (buildSite tb methods G Gm files s).time.getD i none = some (roundHalfEven x) := by
  show ((List.range methods.length).map (siteTime (buildSite tb methods G Gm files s).groups)).getD i none = _
  rw [getD_map_get _ _ i (by simpa using hi), List.getElem_range, siteTime,
    group_values_no_override hi (·.times)
      (fun T S gid E nG => (group_survey_spec tb hw methods files G Gm T S gid E nG).2.1) hsite hint hno,
    sumPV_shares x _ (mt List.length_eq_zero_iff.mp hgs)]
  rfl

/-! ## 5. exactly `n` distinct sites with the structure the files describe -/

/-- the world has exactly one site per sampled row: `n` sites for a sample of size `n` -/
theorem site_count (tb : Tables) (methods : List String) (G : Dict String) (Gm : Dict MKey)
    (files : Files) (picks : List Nat) (n : Nat) (h : ValidPicks files.sites.length n picks) :
    (buildWorld tb methods G Gm files picks).length = n := by
  simp [buildWorld, h.1]

/-- the sites of the world are the sampled rows of the sites file, in the sampled order -/
theorem site_ids (tb : Tables) (methods : List String) (G : Dict String) (Gm : Dict MKey)
    (files : Files) (picks : List Nat) :
    (buildWorld tb methods G Gm files picks).map (fun s => (s.sid, s.stype))
      = picks.map (fun i => ((files.sites.getD i default).sid, (files.sites.getD i default).stype)) := by
  simp [buildWorld, buildSite, Function.comp_def]

/-- distinct rows of a file with distinct site ids give distinct sites -/
theorem site_ids_distinct (tb : Tables) (methods : List String) (G : Dict String) (Gm : Dict MKey)
    (files : Files) (picks : List Nat) (n : Nat) (h : ValidPicks files.sites.length n picks)
    (hfile : (files.sites.map (·.sid)).Nodup) :
    ((buildWorld tb methods G Gm files picks).map (·.sid)).Nodup := by
  rw [buildWorld, List.map_map, List.nodup_iff_pairwise_ne, List.pairwise_map]
  refine h.2.1.imp_of_mem fun {a b} ha hb hab heq => hab ?_
  have hla := h.2.2 a ha
  have hlb := h.2.2 b hb
  refine (List.getElem_inj (h₀ := by simpa using hla) (h₁ := by simpa using hlb) hfile).mp ?_
  simpa [buildSite, List.getD_eq_getElem?_getD, hla, hlb] using heq

/-- **no history, no leak between sibling sites**: the site built for a row of the sites file is a
function of that row (and the files) alone — it does not depend on which other rows were sampled
with it, on their number or on the order of the sample -/
theorem site_independent_of_sample (tb : Tables) (methods : List String) (G : Dict String)
    (Gm : Dict MKey) (files : Files) (picks₁ picks₂ : List Nat) (j₁ j₂ : Nat)
    (h₁ : j₁ < picks₁.length) (h₂ : j₂ < picks₂.length) (hrow : picks₁[j₁] = picks₂[j₂]) :
    (buildWorld tb methods G Gm files picks₁)[j₁]'(by simpa [buildWorld] using h₁)
      = (buildWorld tb methods G Gm files picks₂)[j₂]'(by simpa [buildWorld] using h₂) := by
  simp only [buildWorld, List.getElem_map, hrow]

/-- the order in which the rows are drawn only permutes the sites of the world -/
theorem world_perm_of_sample_perm (tb : Tables) (methods : List String) (G : Dict String)
    (Gm : Dict MKey) (files : Files) (picks₁ picks₂ : List Nat) (h : picks₁.Perm picks₂) :
    (buildWorld tb methods G Gm files picks₁).Perm (buildWorld tb methods G Gm files picks₂) :=
  h.map _

/-- a smaller sample gives a sub-world: dropping rows from the sample drops exactly their sites -/
theorem world_sublist_of_sample_sublist (tb : Tables) (methods : List String) (G : Dict String)
    (Gm : Dict MKey) (files : Files) (picks₁ picks₂ : List Nat) (h : picks₁.Sublist picks₂) :
    (buildWorld tb methods G Gm files picks₁).Sublist (buildWorld tb methods G Gm files picks₂) :=
  h.map _

/-- named equipment: one group per name of the site's (or its type's) equipment list, in order -/
theorem structure_groups_named (tb : Tables) (methods : List String) (G : Dict String) (Gm : Dict MKey)
    (files : Files) (s : SiteRow) (raw : String)
    (hspec : equipFor files s (findType files s) = .named raw) :
    (buildSite tb methods G Gm files s).groups.map (·.gid) = splitEquip raw := by
  rw [buildSite_groups, List.map_map]
  unfold groupsOf
  rw [hspec]
  simp [siteGroups, Function.comp_def, groupAt, buildGroup]

/-- numeric equipment `q`: one placeholder group for `0`, else `int(q)` groups numbered from 0 -/
theorem structure_groups_numeric (tb : Tables) (methods : List String) (G : Dict String) (Gm : Dict MKey)
    (files : Files) (s : SiteRow) (q : Rat)
    (hspec : equipFor files s (findType files s) = .count q) :
    (buildSite tb methods G Gm files s).groups.map (·.gid)
      = if q = 0 then ["0"] else (List.range q.floor.toNat).map toString := by
  rw [buildSite_groups, List.map_map]
  unfold groupsOf
  rw [hspec]
  by_cases hq : q = 0 <;> simp [siteGroups, hq, Function.comp_def, groupAt, buildGroup]

/-- per group: for every component column of the equipment row, as many components as its count,
named `<type>_<index>` -/
theorem structure_components (tb : Tables) (methods : List String) (files : Files) (G : Dict String)
    (Gm : Dict MKey) (T : Option Row) (S : Row) (gid : String) (E : Row) (nG : Rat) :
    (groupAt tb methods files G Gm T S gid E nG).comps.map (·.cid)
      = (cleanedCells tb E).flatMap (fun c =>
          (List.range (cellCount c.2)).map (fun i => compType c.1 ++ "_" ++ toString i))
    ∧ (groupAt tb methods files G Gm T S gid E nG).comps.length = totalComponents tb E := by
  constructor
  · rw [groupAt_comps, List.map_flatMap]
    simp [Function.comp_def]
  · rw [groupAt_comps, length_flatMap_range]
    rfl

/-- per component of a user-defined type: one source per row of the sources file whose `component`
column names the type, in file order, each built from that row -/
theorem structure_sources_file (tb : Tables) (methods : List String) (files : Files) (ty : String)
    (d : Dict String) (m : Dict MKey) (rows : List SrcRow) (hrows : files.sources = some rows)
    (h1 : ty ≠ compType tb.placeholderBoth) (h2 : ty ≠ compType tb.placeholderRep)
    (h3 : ty ≠ compType tb.placeholderNonRep) :
    componentSources tb methods files ty d m
      = (rows.filter (fun r => r.comp = ty)).map (fun r => sourceEff tb methods r.sid r.rep r.cells d m) := by
  simp [componentSources, h1, h2, h3, hrows]

/-- placeholder components: a repairable and a non-repairable source, or one of them, by kind -/
theorem structure_sources_placeholder (tb : Tables) (methods : List String) (files : Files)
    (d : Dict String) (m : Dict MKey)
    (hd : compType tb.placeholderRep ≠ compType tb.placeholderBoth
        ∧ compType tb.placeholderNonRep ≠ compType tb.placeholderBoth
        ∧ compType tb.placeholderNonRep ≠ compType tb.placeholderRep) :
    (componentSources tb methods files (compType tb.placeholderBoth) d m).map (fun s => (s.sid, s.rep))
        = [(compType tb.placeholderRep, true), (compType tb.placeholderNonRep, false)]
    ∧ componentSources tb methods files (compType tb.placeholderRep) d m
        = [sourceEff tb methods (compType tb.placeholderRep) true [] d m]
    ∧ componentSources tb methods files (compType tb.placeholderNonRep) d m
        = [sourceEff tb methods (compType tb.placeholderNonRep) false [] d m] := by
  refine ⟨?_, ?_, ?_⟩
  · simp [componentSources, sourceEff]
  · simp [componentSources, hd.1]
  · simp [componentSources, hd.2.1, hd.2.2]

/-- table obligation: the three placeholder equipment names are component columns (not dropped by the
cleaning) and give the three distinct component types the source creation distinguishes -/
theorem tables_placeholder_names :
    (∀ nm ∈ [tables.placeholderBoth, tables.placeholderRep, tables.placeholderNonRep], ∀ q : Rat,
        cleanedCells tables [(nm, .num q)] = [(nm, .num q)]) ∧
    compType tables.placeholderBoth = "Placeholder" ∧ compType tables.placeholderRep = "Placeholder_Rep" ∧
    compType tables.placeholderNonRep = "Placeholder_NonRep" := by
  have h : (∀ nm ∈ [tables.placeholderBoth, tables.placeholderRep, tables.placeholderNonRep],
        ¬ nm ∈ tables.eqCleanPlain ∧ ∀ x ∈ tables.eqCleanMeth, hasInfix x nm = false) ∧
      compType tables.placeholderBoth = "Placeholder" ∧ compType tables.placeholderRep = "Placeholder_Rep" ∧
      compType tables.placeholderNonRep = "Placeholder_NonRep" := by decide +kernel
  exact ⟨fun nm hnm q => by simpa [cleanedCells] using h.1 nm hnm, h.2⟩

/-- the number of placeholder components of a site with numeric equipment: `⌈rate·730⌉` split over
the groups (`⌈count/q⌉` each) -/
theorem structure_placeholder_counts (tb : Tables) (files : Files) (d : Dict String) (q : Rat) :
    (siteGroups tb files (.count q) d).map (fun g => g.2.1.map (fun c => cellCount c.2))
      = (let cnt := placeholderCount (placeholderKind (d.get tb.siteRepEpr) (d.get tb.siteNonRepEpr))
                      (d.get tb.siteRepEpr) (d.get tb.siteNonRepEpr)
         if q = 0 then [[cnt]]
         else List.replicate q.floor.toNat [(((cnt : Rat) / q).ceil.toNat)]) := by
  have hfl : ∀ n : Nat, cellCount (.num (n : Rat)) = n := fun n => by
    rw [cellCount, show (n : Rat).floor = (n : Int) from Rat.floor_intCast (n : Int)]; rfl
  by_cases hq : q = 0 <;> simp [siteGroups, hq, hfl, Function.comp_def, List.map_const']

/-- a two-kind placeholder component hands its repairable and its non-repairable source the *same*
dictionary (no copy); the second source nevertheless ends up with exactly the values it would get
from a fresh copy -/
theorem placeholder_second_source (tb : Tables) (hw : tb.WF) (hsh : tb.SharedOK)
    (methods : List String) (G : Dict String) (Gm : Dict MKey) (T : Option Row) (S E : Row) (nG : Rat)
    (sid : String) (m : Dict MKey) :
    sourceEff tb methods sid false [] (unprefixLoop tb.repPrefix [] (compCtx tb methods G Gm T S E nG)) m
      = sourceEff tb methods sid false [] (compCtx tb methods G Gm T S E nG) m := by
  have hk : ∀ k, k ∈ (compCtx tb methods G Gm T S E nG).keys ↔ k ∈ tb.globalPlain :=
    fun _ => mem_keys_compCtx hw.1
  refine sourceEff_congr tb methods sid false [] _ _ m fun sk hsk => ?_
  obtain ⟨hkey, hin, hu, h2, h3⟩ := hw.2.2.2 false (by simp) sk hsk
  -- a key of the shared dictionary that contains the non-repairable prefix is an old one
  have hold : ∀ k', k' ∈ (unprefixLoop tb.repPrefix [] (compCtx tb methods G Gm T S E nG)).keys →
      hasInfix tb.nonRepPrefix k' = true → k' ∈ tb.globalPlain := by
    intro k' hk' hinf
    rcases mem_keys_unprefixLoop.mp hk' with h1 | ⟨k0, hk0, hin0, rfl⟩
    · exact (hk k').mp h1
    · rw [hsh.1 k0 ((hk k0).mp hk0) hin0] at hinf
      exact absurd hinf (by simp)
  rw [get_unprefixLoop_compCtx (rep := false) hw hsk,
    get_unprefixLoop hu hin (mem_keys_unprefixLoop.mpr (Or.inl ((hk _).mpr hkey)))
      (fun k' hk' hinf => h2 k' (hold k' hk' hinf) hinf) (fun k' hk' hinf => h3 k' (hold k' hk' hinf) hinf),
    get_unprefixLoop_other (k := tb.prefixOf false ++ sk)
      fun k0 hk0 hin0 => hsh.2 k0 ((hk k0).mp hk0) hin0 sk hsk]

/-- the sources of a placeholder component of a group: one repairable and/or one non-repairable
source, each built from the group's component dictionary (no source row: nothing to override) -/
theorem structure_sources_placeholder_ctx (tb : Tables) (hw : tb.WF) (hsh : tb.SharedOK)
    (hd : compType tb.placeholderRep ≠ compType tb.placeholderBoth
        ∧ compType tb.placeholderNonRep ≠ compType tb.placeholderBoth
        ∧ compType tb.placeholderNonRep ≠ compType tb.placeholderRep)
    (methods : List String) (files : Files) (G : Dict String) (Gm : Dict MKey) (T : Option Row)
    (S E : Row) (nG : Rat) (m : Dict MKey) :
    componentSources tb methods files (compType tb.placeholderBoth) (compCtx tb methods G Gm T S E nG) m
        = [sourceEff tb methods (compType tb.placeholderRep) true [] (compCtx tb methods G Gm T S E nG) m,
           sourceEff tb methods (compType tb.placeholderNonRep) false [] (compCtx tb methods G Gm T S E nG) m]
    ∧ componentSources tb methods files (compType tb.placeholderRep) (compCtx tb methods G Gm T S E nG) m
        = [sourceEff tb methods (compType tb.placeholderRep) true [] (compCtx tb methods G Gm T S E nG) m]
    ∧ componentSources tb methods files (compType tb.placeholderNonRep) (compCtx tb methods G Gm T S E nG) m
        = [sourceEff tb methods (compType tb.placeholderNonRep) false [] (compCtx tb methods G Gm T S E nG) m] := by
  refine ⟨?_, (structure_sources_placeholder tb methods files _ m hd).2.1,
    (structure_sources_placeholder tb methods files _ m hd).2.2⟩
  have := placeholder_second_source tb hw hsh methods G Gm T S E nG (compType tb.placeholderNonRep) m
  simp only [componentSources, if_true, this]

/-! ### the component rate is what the sources carry -/

/-- a source whose own row gives no production rate carries exactly the rate of its component (the
value the component's dictionary holds under the prefixed key) -/
theorem source_rate_is_component_rate (tb : Tables) (hw : tb.WF) (methods : List String)
    (G : Dict String) (Gm : Dict MKey) (T : Option Row) (S E R : Row) (nG : Rat) (sid : String)
    (rep : Bool) (m : Dict MKey) (hR : R.get? tb.srcEpr = none) :
    (sourceEff tb methods sid rep R (compCtx tb methods G Gm T S E nG) m).epr
      = (compCtx tb methods G Gm T S E nG).get (tb.prefixOf rep ++ tb.srcEpr) := by
  rw [(sourceEff_plain tb methods sid rep R _ m).2.1, get_unprefixLoop_compCtx hw (by simp [Tables.srcKeysFor]), hR]
  rfl

/-- every source of a component of a group is built from the component's dictionary (the second
source of a two-kind placeholder included, although the code hands it the dictionary the first one
has already written to) -/
theorem mem_componentSources (tb : Tables) (hw : tb.WF) (hsh : tb.SharedOK) (methods : List String)
    (files : Files) (G : Dict String) (Gm : Dict MKey) (T : Option Row) (S E : Row) (nG : Rat)
    (ty : String) (m : Dict MKey) (s : SourceEff)
    (hs : s ∈ componentSources tb methods files ty (compCtx tb methods G Gm T S E nG) m) :
    ∃ sid rep R, s = sourceEff tb methods sid rep R (compCtx tb methods G Gm T S E nG) m := by
  unfold componentSources at hs
  simp only at hs
  split at hs
  · rcases List.mem_cons.mp hs with rfl | hs
    · exact ⟨_, _, _, rfl⟩
    · rw [List.mem_singleton, placeholder_second_source tb hw hsh] at hs
      exact ⟨_, _, _, hs⟩
  · split at hs
    · exact ⟨_, _, _, List.mem_singleton.mp hs⟩
    · split at hs
      · exact ⟨_, _, _, List.mem_singleton.mp hs⟩
      · split at hs
        · obtain ⟨r, _, rfl⟩ := List.mem_map.mp hs
          exact ⟨_, _, _, rfl⟩
        · cases hs

/-- **the link to `Source._emis_prod_rate`**: in every component of every group, a source whose own
row gives no rate carries the component's repairable resp. non-repairable rate — the quantity the
conservation theorems add up is observable at the sources -/
theorem observed_component_rate (tb : Tables) (hw : tb.WF) (hsh : tb.SharedOK) (methods : List String)
    (files : Files) (G : Dict String) (Gm : Dict MKey) (T : Option Row) (S : Row) (gid : String)
    (E : Row) (nG : Rat) :
    ∀ c ∈ (groupAt tb methods files G Gm T S gid E nG).comps, ∀ s ∈ c.sources, s.ownRate = false →
      s.epr = if s.rep then c.repRate else c.nonRate := by
  intro c hc s hs hown
  rw [groupAt_comps] at hc
  simp only [List.mem_flatMap, List.mem_map] at hc
  obtain ⟨col, _, i, _, rfl⟩ := hc
  simp only at hs ⊢
  obtain ⟨sid, rep, R, rfl⟩ := mem_componentSources tb hw hsh methods files G Gm T S E nG _ _ s hs
  rw [sourceEff_ownRate, ← Bool.not_eq_true, Option.not_isSome_iff_eq_none] at hown
  rw [source_rate_is_component_rate tb hw methods G Gm T S E R nG sid rep _ hown, sourceEff_rep]
  cases rep <;> simp [Tables.prefixOf, hw.scale.nonEq, hw.scale.repEq]

/-- **production rate conserved at the sources**: choose in every component one repairable source
whose own row gives no rate (`pick`); the `_emis_prod_rate` values of the chosen sources add up, over
all components of all equipment groups, to the site's value -/
theorem site_source_rates_conserved (tb : Tables) (hw : tb.WF) (hsh : tb.SharedOK) (methods : List String)
    (G : Dict String) (Gm : Dict MKey) (files : Files) (s : SiteRow) (x : Rat) (hx : 0 ≤ x)
    (hsite : resolve [typeGet (typeRowOf files s) tb.eqRepEpr, s.cells.get? tb.eqRepEpr] (G.get tb.eqRepEpr) = .num x)
    (hgs : groupsOf tb methods G Gm files s ≠ [])
    (hint : (equipFor files s (findType files s)).Integral)
    (hno : NoGroupOverride (groupsOf tb methods G Gm files s) tb.eqRepEpr)
    (hcomp : ∀ g ∈ groupsOf tb methods G Gm files s, totalComponents tb g.2.1 ≠ 0)
    (pick : CompEff → SourceEff)
    (hpick : ∀ g ∈ (buildSite tb methods G Gm files s).groups, ∀ c ∈ g.comps,
        pick c ∈ c.sources ∧ (pick c).rep = true ∧ (pick c).ownRate = false) :
    ((buildSite tb methods G Gm files s).groups.map
        (fun g => (g.comps.map (fun c => numOf (pick c).epr)).sum)).sum = x := by
  refine Eq.trans (congrArg List.sum (List.map_congr_left fun g hg => congrArg List.sum
    (List.map_congr_left fun c hc => ?_)))
    (site_production_rate_conserved tb hw methods G Gm files s x hx hsite hgs hint hno hcomp)
  obtain ⟨hmem, hrep, hown⟩ := hpick g hg c hc
  rw [buildSite_groups] at hg
  obtain ⟨g0, _, rfl⟩ := List.mem_map.mp hg
  rw [observed_component_rate tb hw hsh methods files G Gm _ _ _ _ _ c hc (pick c) hmem hown, hrep]
  rfl

/-! ### global counts -/

/-- the number of components of a site is the sum, over its equipment groups, of the component counts
of the group's equipment row -/
theorem site_component_count (tb : Tables) (methods : List String) (G : Dict String) (Gm : Dict MKey)
    (files : Files) (s : SiteRow) :
    ((buildSite tb methods G Gm files s).groups.map (fun g => g.comps.length)).sum
      = ((groupsOf tb methods G Gm files s).map (fun g => totalComponents tb g.2.1)).sum := by
  rw [buildSite_groups, List.map_map]
  exact congrArg List.sum (List.map_congr_left fun g _ =>
    (structure_components tb methods files G Gm _ _ g.1 g.2.1 g.2.2).2)

/-- the number of sources of a group: for every component column, its count times the number of
sources a component of that type gets -/
theorem group_source_count (tb : Tables) (methods : List String) (files : Files) (G : Dict String)
    (Gm : Dict MKey) (T : Option Row) (S : Row) (gid : String) (E : Row) (nG : Rat) :
    ((groupAt tb methods files G Gm T S gid E nG).comps.map (fun c => c.sources.length)).sum
      = ((cleanedCells tb E).map (fun col => cellCount col.2 *
          (componentSources tb methods files (compType col.1) (compCtx tb methods G Gm T S E nG)
            (groupCtx tb methods G Gm T S E nG).2).length)).sum := by
  rw [groupAt_comps, List.map_flatMap]
  simp only [List.map_map, Function.comp_def]
  exact sum_flatMap_range_const _ _ _

/-- a component of a user-defined type gets as many sources as the sources file has rows naming the type -/
theorem component_source_count_file (tb : Tables) (methods : List String) (files : Files) (ty : String)
    (d : Dict String) (m : Dict MKey) (rows : List SrcRow) (hrows : files.sources = some rows)
    (h1 : ty ≠ compType tb.placeholderBoth) (h2 : ty ≠ compType tb.placeholderRep)
    (h3 : ty ≠ compType tb.placeholderNonRep) :
    (componentSources tb methods files ty d m).length = rows.countP (fun r => r.comp = ty)
    ∧ (componentSources tb methods files ty d m).map (fun s => (s.sid, s.rep))
        = (rows.filter (fun r => r.comp = ty)).map (fun r => (r.sid, r.rep)) := by
  rw [structure_sources_file tb methods files ty d m rows hrows h1 h2 h3]
  constructor
  · rw [List.length_map, List.countP_eq_length_filter]
  · simp [sourceEff, Function.comp_def]

/-! ## 6. the property -/

/-- the values the chain of levels prescribes for a source (row `R`, repairable flag `rep`) of a
component of the equipment group with row `E` (one of `nG` groups) of a site with row `S` and site
type row `T` -/
structure SourceSpec (tb : Tables) (methods : List String) (G : Dict String) (Gm : Dict MKey)
    (T : Option Row) (S E R : Row) (nG : Rat) (rep : Bool) (s : SourceEff) : Prop where
  ers : s.ers = resolve (upper T S E (tb.prefixOf rep ++ tb.srcErs) ++ [R.get? tb.srcErs]) (G.get (tb.prefixOf rep ++ tb.srcErs))
  dur : s.dur = resolve (upper T S E (tb.prefixOf rep ++ tb.srcDur) ++ [R.get? tb.srcDur]) (G.get (tb.prefixOf rep ++ tb.srcDur))
  multi : s.multi = resolve (upper T S E (tb.prefixOf rep ++ tb.srcMulti) ++ [R.get? tb.srcMulti]) (G.get (tb.prefixOf rep ++ tb.srcMulti))
  repair : rep = true →
    s.rd = resolve (upper T S E (tb.prefixOf rep ++ tb.srcRd) ++ [R.get? tb.srcRd]) (G.get (tb.prefixOf rep ++ tb.srcRd)) ∧
    s.rc = resolve (upper T S E (tb.prefixOf rep ++ tb.srcRc) ++ [R.get? tb.srcRc]) (G.get (tb.prefixOf rep ++ tb.srcRc))
  epr : s.epr = resolve [R.get? tb.srcEpr]
      ((resolve [E.get? (tb.prefixOf rep ++ tb.srcEpr)]
        ((resolve [typeGet T (tb.prefixOf rep ++ tb.srcEpr), S.get? (tb.prefixOf rep ++ tb.srcEpr)]
            (G.get (tb.prefixOf rep ++ tb.srcEpr))).divBy nG)).divPos (totalComponents tb E))
  spatial : s.spatial = methods.map (fun me =>
      resolve (upper T S E (me ++ tb.srcSpatial) ++ [R.get? (me ++ tb.srcSpatial)]) (gmVal tb Gm (me, tb.srcSpatial)))
  temporal : s.temporal = methods.map (fun me =>
      resolve (upper T S E (me ++ tb.srcTemporal) ++ [R.get? (me ++ tb.srcTemporal)]) (gmVal tb Gm (me, tb.srcTemporal)))

/-- every source the model creates from a row of the sources file (or as single-kind placeholder)
carries the prescribed values -/
theorem source_spec (tb : Tables) (hw : tb.WF) (methods : List String) (G : Dict String)
    (Gm : Dict MKey) (T : Option Row) (S E R : Row) (nG : Rat) (sid : String) (rep : Bool) :
    SourceSpec tb methods G Gm T S E R nG rep
      (sourceEff tb methods sid rep R (compCtx tb methods G Gm T S E nG) (groupCtx tb methods G Gm T S E nG).2) := by
  have h1 := source_most_granular_wins tb hw methods G Gm T S E R nG sid rep (groupCtx tb methods G Gm T S E nG).2
  have h2 := source_production_rate_spec tb hw methods G Gm T S E R nG sid rep (groupCtx tb methods G Gm T S E nG).2
  have h3 := source_coverage_most_granular_wins tb hw methods G Gm T S E R nG sid rep (compCtx tb methods G Gm T S E nG)
  simp only at h1 h3
  exact ⟨h1.1, h1.2.1, h1.2.2.1, h1.2.2.2.1, h2, h3.1, h3.2⟩

/-- C15 at full strength over the model instantiated with the key tables extracted from the source:
for all parameter files, infrastructure files and samples —
 (1) every source a component creates carries, for every propagating parameter, the value of the most
     granular level that specifies it (production rate: with the split over groups and components);
     every source of every component of every group is such a source, and one whose own row gives no
     rate carries the component's rate;
 (2) every group's survey time/cost and every site's frequency / months / years / deployment likewise;
 (3) when the equipment cell names groups or is a whole number, no equipment row overrides the
     quantity and every group has a component, the `_emis_prod_rate` of one un-overridden repairable
     source per component, the groups' survey costs and times add back up to the site value;
 (4) a sample of `n` distinct rows gives exactly `n` sites, with distinct ids when the file's ids are
     distinct; a site has the groups its equipment cell names, each group as many components as its
     equipment row counts, each component as many sources as the sources file has rows for its type. -/
def C15_statement : Prop :=
  ∀ (methods : List String) (G : Dict String) (Gm : Dict MKey) (files : Files),
    -- (1) sources
    (∀ (T : Option Row) (S E R : Row) (nG : Rat) (sid : String) (rep : Bool),
      SourceSpec tables methods G Gm T S E R nG rep
        (sourceEff tables methods sid rep R (compCtx tables methods G Gm T S E nG)
          (groupCtx tables methods G Gm T S E nG).2)) ∧
    (∀ (T : Option Row) (S E : Row) (nG : Rat) (gid ty : String) (m : Dict MKey),
      (∀ s ∈ componentSources tables methods files ty (compCtx tables methods G Gm T S E nG) m,
        ∃ sid rep R, s = sourceEff tables methods sid rep R (compCtx tables methods G Gm T S E nG) m) ∧
      (∀ c ∈ (groupAt tables methods files G Gm T S gid E nG).comps, ∀ s ∈ c.sources,
        s.ownRate = false → s.epr = if s.rep then c.repRate else c.nonRate)) ∧
    -- (2) groups and sites
    (∀ (s : SiteRow),
      (buildSite tables methods G Gm files s).groups
        = (groupsOf tables methods G Gm files s).map (fun g =>
            groupAt tables methods files G Gm (typeRowOf files s) s.cells g.1 g.2.1 g.2.2) ∧
      (∀ g ∈ groupsOf tables methods G Gm files s,
        let grp := groupAt tables methods files G Gm (typeRowOf files s) s.cells g.1 g.2.1 g.2.2
        let spec := fun p me => resolve [g.2.1.get? (me ++ p)]
          ((resolve [typeGet (typeRowOf files s) (me ++ p), s.cells.get? (me ++ p)]
              (gmVal tables Gm (me, p))).divBy g.2.2)
        grp.gid = g.1 ∧ grp.times = methods.map (spec tables.eqTimeKey) ∧
        grp.costs = methods.map (spec tables.eqCostKey) ∧
        ((equipFor files s (findType files s)).Integral →
          g.2.2 = ((groupsOf tables methods G Gm files s).length : Rat))) ∧
      (let site := buildSite tables methods G Gm files s
       let spec := fun p gv me =>
         resolve [typeGet (typeRowOf files s) (me ++ p), s.cells.get? (me ++ p)] (gv me)
       site.sid = s.sid ∧ site.stype = s.stype ∧
       site.freq = methods.map (spec tables.freqKey (fun me => gmVal tables Gm (me, tables.freqKey))) ∧
       site.months = methods.map (spec tables.monthsKey (fun me => gmVal tables Gm (me, tables.monthsKey))) ∧
       site.years = methods.map (spec tables.yearsKey (fun me => gmVal tables Gm (me, tables.yearsKey))) ∧
       site.deploy = methods.map (spec tables.siteDeploy (fun _ => PV.tru)))) ∧
    -- (3) conservation
    (∀ (s : SiteRow) (x : Rat), 0 ≤ x → groupsOf tables methods G Gm files s ≠ [] →
      (equipFor files s (findType files s)).Integral →
      (∀ g ∈ groupsOf tables methods G Gm files s, totalComponents tables g.2.1 ≠ 0) →
      resolve [typeGet (typeRowOf files s) tables.eqRepEpr, s.cells.get? tables.eqRepEpr]
            (G.get tables.eqRepEpr) = .num x →
      NoGroupOverride (groupsOf tables methods G Gm files s) tables.eqRepEpr →
      ∀ (pick : CompEff → SourceEff),
        (∀ g ∈ (buildSite tables methods G Gm files s).groups, ∀ c ∈ g.comps,
          pick c ∈ c.sources ∧ (pick c).rep = true ∧ (pick c).ownRate = false) →
        ((buildSite tables methods G Gm files s).groups.map
          (fun g => (g.comps.map (fun c => numOf (pick c).epr)).sum)).sum = x) ∧
    (∀ (s : SiteRow) (x : Rat), 0 ≤ x → groupsOf tables methods G Gm files s ≠ [] →
      (equipFor files s (findType files s)).Integral →
      (∀ g ∈ groupsOf tables methods G Gm files s, totalComponents tables g.2.1 ≠ 0) →
      resolve [typeGet (typeRowOf files s) tables.eqNonRepEpr, s.cells.get? tables.eqNonRepEpr]
            (G.get tables.eqNonRepEpr) = .num x →
      NoGroupOverride (groupsOf tables methods G Gm files s) tables.eqNonRepEpr →
      ((buildSite tables methods G Gm files s).groups.map
        (fun g => (g.comps.map (fun c => numOf c.nonRate)).sum)).sum = x) ∧
    (∀ (s : SiteRow) (i : Nat) (hi : i < methods.length) (x : Rat),
      groupsOf tables methods G Gm files s ≠ [] →
      (equipFor files s (findType files s)).Integral →
      (resolve [typeGet (typeRowOf files s) (methods[i] ++ tables.eqCostKey),
                s.cells.get? (methods[i] ++ tables.eqCostKey)] (gmVal tables Gm (methods[i], tables.eqCostKey)) = .num x →
        NoGroupOverride (groupsOf tables methods G Gm files s) (methods[i] ++ tables.eqCostKey) →
        (buildSite tables methods G Gm files s).cost.getD i .nul = .num x) ∧
      (resolve [typeGet (typeRowOf files s) (methods[i] ++ tables.eqTimeKey),
                s.cells.get? (methods[i] ++ tables.eqTimeKey)] (gmVal tables Gm (methods[i], tables.eqTimeKey)) = .num x →
        NoGroupOverride (groupsOf tables methods G Gm files s) (methods[i] ++ tables.eqTimeKey) →
        (buildSite tables methods G Gm files s).time.getD i none = some (roundHalfEven x))) ∧
    -- (4) the sites of the world and their structure
    (∀ (picks : List Nat) (n : Nat), ValidPicks files.sites.length n picks →
      (buildWorld tables methods G Gm files picks).length = n ∧
      (buildWorld tables methods G Gm files picks).map (fun s => (s.sid, s.stype))
        = picks.map (fun i => ((files.sites.getD i default).sid, (files.sites.getD i default).stype)) ∧
      ((files.sites.map (·.sid)).Nodup → ((buildWorld tables methods G Gm files picks).map (·.sid)).Nodup)) ∧
    (∀ (s : SiteRow),
      (∀ raw, equipFor files s (findType files s) = .named raw →
        (buildSite tables methods G Gm files s).groups.map (·.gid) = splitEquip raw) ∧
      (∀ q, equipFor files s (findType files s) = .count q →
        (buildSite tables methods G Gm files s).groups.map (·.gid)
          = if q = 0 then ["0"] else (List.range q.floor.toNat).map toString) ∧
      ((buildSite tables methods G Gm files s).groups.map (fun g => g.comps.length)).sum
        = ((groupsOf tables methods G Gm files s).map (fun g => totalComponents tables g.2.1)).sum) ∧
    (∀ (T : Option Row) (S E : Row) (nG : Rat) (gid : String),
      (groupAt tables methods files G Gm T S gid E nG).comps.map (·.cid)
        = (cleanedCells tables E).flatMap (fun c =>
            (List.range (cellCount c.2)).map (fun i => compType c.1 ++ "_" ++ toString i)) ∧
      ((groupAt tables methods files G Gm T S gid E nG).comps.map (fun c => c.sources.length)).sum
        = ((cleanedCells tables E).map (fun col => cellCount col.2 *
            (componentSources tables methods files (compType col.1) (compCtx tables methods G Gm T S E nG)
              (groupCtx tables methods G Gm T S E nG).2).length)).sum) ∧
    (∀ (ty : String) (d : Dict String) (m : Dict MKey) (rows : List SrcRow), files.sources = some rows →
      ty ≠ "Placeholder" → ty ≠ "Placeholder_Rep" → ty ≠ "Placeholder_NonRep" →
      (componentSources tables methods files ty d m).length = rows.countP (fun r => r.comp = ty) ∧
      (componentSources tables methods files ty d m).map (fun s => (s.sid, s.rep))
        = (rows.filter (fun r => r.comp = ty)).map (fun r => (r.sid, r.rep))) ∧
    (∀ (d : Dict String) (m : Dict MKey),
      (componentSources tables methods files "Placeholder" d m).map (fun s => (s.sid, s.rep))
        = [("Placeholder_Rep", true), ("Placeholder_NonRep", false)] ∧
      (componentSources tables methods files "Placeholder_Rep" d m).map (fun s => (s.sid, s.rep))
        = [("Placeholder_Rep", true)] ∧
      (componentSources tables methods files "Placeholder_NonRep" d m).map (fun s => (s.sid, s.rep))
        = [("Placeholder_NonRep", false)])

theorem C15 : C15_statement := by
  intro methods G Gm files
  have hw := tables_wf
  have hsh := tables_placeholder_shared_dict
  obtain ⟨-, hboth, hrep, hnon⟩ := tables_placeholder_names
  have hd : compType tables.placeholderRep ≠ compType tables.placeholderBoth
      ∧ compType tables.placeholderNonRep ≠ compType tables.placeholderBoth
      ∧ compType tables.placeholderNonRep ≠ compType tables.placeholderRep := by
    rw [hboth, hrep, hnon]; decide
  have hph := fun d m => structure_sources_placeholder tables methods files d m hd
  simp only [hboth, hrep, hnon] at hph
  exact ⟨source_spec tables hw methods G Gm,
    fun T S E nG gid ty m => ⟨mem_componentSources tables hw hsh methods files G Gm T S E nG ty m,
      observed_component_rate tables hw hsh methods files G Gm T S gid E nG⟩,
    fun s => ⟨buildSite_groups tables methods G Gm files s,
      fun g hg =>
        have hsp := group_survey_spec tables hw methods files G Gm (typeRowOf files s) s.cells g.1 g.2.1 g.2.2
        ⟨hsp.1, hsp.2.1, hsp.2.2, fun hint => siteGroups_divisor hint hg⟩,
      site_most_granular_wins tables hw methods G Gm files s⟩,
    fun s x hx hgs hint hcomp hsite hno =>
      site_source_rates_conserved tables hw hsh methods G Gm files s x hx hsite hgs hint hno hcomp,
    fun s x hx hgs hint hcomp hsite hno =>
      site_production_rate_conserved_nonrep tables hw methods G Gm files s x hx hsite hgs hint hno hcomp,
    fun s i hi x hgs hint =>
      ⟨fun hsite hno => site_cost_conserved tables hw methods G Gm files s i hi x hsite hgs hint hno,
       fun hsite hno => site_time_conserved tables hw methods G Gm files s i hi x hsite hgs hint hno⟩,
    fun picks n hv => ⟨site_count tables methods G Gm files picks n hv, site_ids tables methods G Gm files picks,
      site_ids_distinct tables methods G Gm files picks n hv⟩,
    fun s => ⟨structure_groups_named tables methods G Gm files s, structure_groups_numeric tables methods G Gm files s,
      site_component_count tables methods G Gm files s⟩,
    fun T S E nG gid => ⟨(structure_components tables methods files G Gm T S gid E nG).1,
      group_source_count tables methods files G Gm T S gid E nG⟩,
    fun ty d m rows hrows h1 h2 h3 => component_source_count_file tables methods files ty d m rows hrows
      (hboth ▸ h1) (hrep ▸ h2) (hnon ▸ h3),
    fun d m => ⟨(hph d m).1, by rw [(hph d m).2.1]; rfl, by rw [(hph d m).2.2]; rfl⟩⟩

/-! ## non-vacuity: a concrete world in which several levels specify the same parameters -/

private def exFiles : Files :=
  { hasTypes := true,
    types := [{ name := "A", equip := .named "e1;e2",
                cells := [("repairable_duration", .tok 10), ("M_survey_time", .num 90),
                          ("M_surveys_per_year", .tok 31)] }],
    sitesHaveEquip := false, typesHaveEquip := true,
    sites := [{ sid := "7", stype := "A", equip := .bad,
                cells := [("repairable_duration", .tok 11),
                          ("repairable_emissions_production_rate", .num (3 / 8)),
                          ("M_site_deployment", .tok 0)] },
              { sid := "9", stype := "A", equip := .bad, cells := [] }],
    equipment := [{ name := "e1", cells := [("c1", .num 2), ("c2", .num 1), ("repairable_duration", .tok 12),
                                            ("M_spatial", .tok 41)] },
                  { name := "e2", cells := [("c1", .num 1), ("c2", .num 1)] }],
    sources := some [{ comp := "c1", sid := "s1", rep := true, cells := [("duration", .tok 13)] },
                     { comp := "c2", sid := "s2", rep := true, cells := [] },
                     { comp := "c1", sid := "s3", rep := false, cells := [("M_spatial", .tok 42)] }] }

private def exG : Dict String :=
  [("repairable_duration", .tok 9), ("non_repairable_duration", .tok 8),
   ("repairable_emissions_production_rate", .num (1 / 4)),
   ("non_repairable_emissions_production_rate", .num (1 / 8)),
   ("repairable_emissions_rate_source", .tok 20), ("non_repairable_emissions_rate_source", .tok 21),
   ("repairable_repair_delay", .tok 22), ("repairable_repair_cost", .tok 23),
   ("repairable_multiple_emissions_per_source", .tok 1),
   ("non_repairable_multiple_emissions_per_source", .tok 0)]

private def exGm : Dict MKey :=
  [(("M", "_survey_time"), .num 60), (("M", "_survey_cost"), .num 25), (("M", "_spatial"), .tok 40),
   (("M", "_temporal"), .tok 43), (("M", "_surveys_per_year"), .tok 30), (("M", "_deploy_month"), .tok 44),
   (("M", "_deploy_year"), .tok 45)]

private def exWorld : List SiteEff := buildWorld tables ["M"] exG exGm exFiles [1, 0]

/-- two distinct sites in the sampled order; the site row beats the site type row beats the method file
(frequency 31 from the type, deployment switched off by the site row only at site 7); survey time 90
from the type row is split 45 + 45 and adds back up, survey cost 25 likewise -/
example :
    exWorld.map (·.sid) = ["9", "7"] ∧ exWorld.map (·.freq) = [[.tok 31], [.tok 31]] ∧
    exWorld.map (·.deploy) = [[.tru], [.tok 0]] ∧ exWorld.map (·.time) = [[some 90], [some 90]] ∧
    exWorld.map (·.cost) = [[.num 25], [.num 25]] ∧
    exWorld.map (fun s => s.groups.map (fun g => (g.gid, g.times, g.comps.map (·.cid))))
      = [[("e1", [.num 45], ["c1_0", "c1_1", "c2_0"]), ("e2", [.num 45], ["c1_0", "c2_0"])],
         [("e1", [.num 45], ["c1_0", "c1_1", "c2_0"]), ("e2", [.num 45], ["c1_0", "c2_0"])]] := by
  decide +kernel

/-- site 7: source s1 specifies its duration itself (13) wherever it sits; source s3 (non-repairable)
inherits the global 8; source s2 gets the equipment row's 12 in group e1 and, in group e2 where nobody
below the site specifies the repairable duration, the site row's 11 (not the type's 10, not the
global 9); the site's production rate 3/8 is split over 2 groups and 3 resp. 2 components; coverage:
source row over equipment row over method file -/
example :
    (exWorld.getD 1 default).groups.map (fun g => g.comps.map (fun c => c.sources.map (fun r => (r.sid, r.dur))))
      = [[[("s1", .tok 13), ("s3", .tok 8)], [("s1", .tok 13), ("s3", .tok 8)], [("s2", .tok 12)]],
         [[("s1", .tok 13), ("s3", .tok 8)], [("s2", .tok 11)]]] ∧
    (exWorld.getD 1 default).groups.map (fun g => g.comps.map (fun c => c.sources.map (fun r => r.epr)))
      = [[[.num (1 / 16), .num (1 / 48)], [.num (1 / 16), .num (1 / 48)], [.num (1 / 16)]],
         [[.num (3 / 32), .num (1 / 32)], [.num (3 / 32)]]] ∧
    (exWorld.getD 1 default).groups.map (fun g => g.comps.map (fun c => c.sources.map (fun r => r.spatial)))
      = [[[[.tok 41], [.tok 42]], [[.tok 41], [.tok 42]], [[.tok 41]]], [[[.tok 40], [.tok 42]], [[.tok 40]]]] := by
  decide +kernel

/-- the hypotheses of the conservation theorems are satisfiable (site 7: rate 3/8, no equipment-level
override, every group has components) and the component rates do add up to 3/8 -/
example :
    groupsOf tables ["M"] exG exGm exFiles (exFiles.sites.getD 0 default) ≠ [] ∧
    (∀ g ∈ groupsOf tables ["M"] exG exGm exFiles (exFiles.sites.getD 0 default),
        g.2.1.get? tables.eqRepEpr = none ∧ totalComponents tables g.2.1 ≠ 0) ∧
    ((exWorld.getD 1 default).groups.map (fun g => (g.comps.map (fun c => numOf c.repRate)).sum)).sum = 3 / 8 := by
  decide +kernel

/-- numeric equipment: rate 1/100 → ⌈7.3⌉ = 8 placeholder components, 3 groups of ⌈8/3⌉ = 3 -/
example :
    (siteGroups tables exFiles (.count 3) [("repairable_emissions_production_rate", .num (1 / 100))]).map
        (fun g => (g.1, g.2.1, g.2.2))
      = [("0", [("Placeholder_Rep_Equipment", .num 3)], 3), ("1", [("Placeholder_Rep_Equipment", .num 3)], 3),
         ("2", [("Placeholder_Rep_Equipment", .num 3)], 3)] := by
  decide +kernel

/-! ## what is *not* conserved in the code as it stands (recorded findings) -/

/-- the conservation clause without the two guards of `C15_statement` (3): any non-negative site rate,
any equipment cell, any equipment rows -/
def ConservationUnguarded : Prop :=
  ∀ (methods : List String) (G : Dict String) (Gm : Dict MKey) (files : Files) (s : SiteRow) (x : Rat),
    0 ≤ x → groupsOf tables methods G Gm files s ≠ [] →
    resolve [typeGet (typeRowOf files s) tables.eqRepEpr, s.cells.get? tables.eqRepEpr]
        (G.get tables.eqRepEpr) = .num x →
    NoGroupOverride (groupsOf tables methods G Gm files s) tables.eqRepEpr →
    ((buildSite tables methods G Gm files s).groups.map
      (fun g => (g.comps.map (fun c => numOf c.repRate)).sum)).sum = x

private def exEmptyGroup : Files :=
  { exFiles with equipment := [{ name := "e1", cells := [("c1", .num 2), ("c2", .num 1)] },
                               { name := "e2", cells := [("c1", .num 0), ("c2", .num 0)] }] }

/-- known finding: an equipment group without components takes its `1/k` share of the site's
production rate with it (site 7: rate 3/8 over groups e1 (3 components) and e2 (none): the components
carry 3/16 in total) -/
theorem conservation_counterexample_empty_group : ¬ ConservationUnguarded := fun h =>
  absurd (h ["M"] exG exGm exEmptyGroup (exEmptyGroup.sites.getD 0 default) (3 / 8)) (by decide +kernel)

private def exFractional : Files :=
  { exFiles with sitesHaveEquip := true,
                 sites := [{ sid := "7", stype := "A", equip := .count (5 / 2),
                             cells := [("repairable_emissions_production_rate", .num (1 / 100))] }] }

/-- known finding: a non-integer number in the equipment cell (2.5) creates `int(2.5) = 2` groups but
divides by 2.5 (site rate 1/100: ⌈7.3⌉ = 8 placeholder components, 2 groups of ⌈8/2.5⌉ = 4, each
component 1/1000: 8/1000 in total) -/
theorem conservation_counterexample_fractional_equipment : ¬ ConservationUnguarded := fun h =>
  absurd (h ["M"] exG exGm exFractional (exFractional.sites.getD 0 default) (1 / 100)) (by decide +kernel)

/-- the survey time of the site of `exFractional`: 90 minutes from the site type, two groups of
90/2.5 = 36 each: 72 -/
example : (buildSite tables ["M"] exG exGm exFractional (exFractional.sites.getD 0 default)).time = [some 72] := by
  decide +kernel

/-- Python `round`: ties to even -/
example : roundHalfEven (5 / 2) = 2 ∧ roundHalfEven (7 / 2) = 4 ∧ roundHalfEven (-5 / 2) = -2 ∧
    roundHalfEven (9 / 4) = 2 ∧ roundHalfEven (11 / 4) = 3 := by decide +kernel

end LdarModel.Propagate
