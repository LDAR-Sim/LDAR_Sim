import LdarModel.Lemmas.Crew
import LdarModel.Lemmas.CrewGeneric
import LdarModel.Generated.CrewCost
/-
C08 — crews never exceed their workday and never work in disallowed weather.

Model: `Model/Crew.lean` (`surveyStep`, `deployDay`, `dayBudget`, `checkWeather`).
Quantified over every method description, day budget, crew count and work plan (any number of
requests with any survey / travel times, partial progress, per-site weather), i.e. over every run
of the loop of `deploy_crews`.
-/
namespace LdarModel.Crew

/-- the property at full strength over one day of `deploy_crews` -/
def C08_statement : Prop :=
  -- the budget the loop is started with is the workday, capped by daylight when daylight is
  -- considered, and with that budget no crew's minutes (incl. the trip home) exceed either
  (∀ (p : MethodP) (cd : Bool) (w dl : Int) (n : Nat) (reqs : List Req), 0 ≤ w → 0 ≤ dl →
    (∀ r ∈ reqs, ReqOk p r) →
    dayBudget cd w dl = 60 * (if cd then min w dl else w) ∧
    ∀ c ∈ (deployDay p (dayBudget cd w dl) n reqs).crews,
      crewMinutes c.id (deployDay p (dayBudget cd w dl) n reqs).out
        + crewHome c.id (deployDay p (dayBudget cd w dl) n reqs).out ≤ 60 * w ∧
      (cd = true → crewMinutes c.id (deployDay p (dayBudget cd w dl) n reqs).out
        + crewHome c.id (deployDay p (dayBudget cd w dl) n reqs).out ≤ 60 * dl)) ∧
  ∀ (p : MethodP) (budget : Int) (n : Nat) (reqs : List Req),
    0 ≤ budget → (∀ r ∈ reqs, ReqOk p r) →
    let d := deployDay p budget n reqs
    -- remaining time is never negative; the minutes charged to a crew over its visits of the day
    -- (travel + survey) plus its trip home never exceed the budget
    (∀ c ∈ d.crews, 0 ≤ c.rem ∧ crewMinutes c.id d.out + crewHome c.id d.out ≤ budget) ∧
    -- every single visit: minutes handed in are split exactly, nothing negative, and after a
    -- completed or partial survey the trip home still fits
    (∀ o ∈ d.out, ∀ s, o.step = some s →
        s.rem + s.travel + s.today = o.rBefore ∧ 0 ≤ s.rem ∧ 0 ≤ s.travel ∧ 0 ≤ s.today ∧
        (s.complete = true → s.travel ≤ s.rem)) ∧
    -- no more crews are used than the method has
    (d.crews.length = n ∧ countDeployed d.crews ≤ n ∧ ∀ o ∈ d.out, ∀ k, o.crew = some k → k < n) ∧
    -- weather: a visited site had workable weather (inside the envelope when weather is considered);
    -- an unworkable site's report is untouched and its request goes back to the queue
    (∀ o ∈ d.out, ∀ s, o.step = some s → s.visited = true →
        workable p o.req = true ∧ (p.considerWeather = true → checkWeather p.env o.req.wx = true)) ∧
    (∀ o ∈ d.out, workable p o.req = false → o.rep = o.req.rep ∧ requeueClass o.rep ≠ none) ∧
    -- one record per planned request, in plan order
    d.out.map (·.req) = reqs ∧
    -- the reports handed back for unfinished surveys are again admissible requests: the day can
    -- be iterated ("all days of a simulation")
    (∀ o ∈ d.out, o.rep.complete = false → ReqOk p { o.req with rep := o.rep })

/-! ### the survey step (all integer `R, S, T, P`) -/

theorem rem_nonneg {R S T P : Int} {st : Bool} (h : StepOk R S T P st) (w : Bool) :
    0 ≤ (surveyStep R S T P st w).rem := (step_minutes h w).2.1

/-- a completed survey leaves at least the travel time: the trip home fits -/
theorem complete_trip_home_fits {R S T P : Int} {st : Bool} (h : StepOk R S T P st) (w : Bool)
    (hc : (surveyStep R S T P st w).complete = true) :
    (surveyStep R S T P st w).travel ≤ (surveyStep R S T P st w).rem :=
  (step_minutes h w).2.2.2.2.1 (Or.inl ((step_complete_iff R S T P st w).1 hc))

/-- the three-way decision, spelled out: complete iff `R ≥ S + 2T − P` (stationary: always),
otherwise partial iff `R > 2T`, otherwise nothing is done -/
theorem step_decision (R S T P : Int) (w : Bool) :
    ((surveyStep R S T P false true).branch = .complete ↔ R ≥ S + 2 * T - P) ∧
    ((surveyStep R S T P false true).branch = .partial_ ↔ (¬ R ≥ S + 2 * T - P ∧ R > 2 * T)) ∧
    (surveyStep R S T P true true).branch = .complete ∧
    (surveyStep R S T P false false).branch = .unworkable ∧ (surveyStep R S T P true w).visited = w := by
  unfold surveyStep effS effT
  grind

/-! ### the day -/

/-- remaining time of every crew is non-negative at the end of (and, being an invariant of the
loop, throughout) the day -/
theorem day_rem_nonneg (p : MethodP) (budget : Int) (hb : 0 ≤ budget) (n : Nat) (reqs : List Req)
    (hreq : ∀ r ∈ reqs, ReqOk p r) : ∀ c ∈ (deployDay p budget n reqs).crews, 0 ≤ c.rem :=
  fun c hc => ((deployDay_bookInv p budget hb n reqs hreq).crews c hc).rem

/-- **day budget**: for every crew, the sum over its visits of the day of travel charged + minutes
surveyed, plus the final trip home, is within the budget of the day -/
theorem day_budget (p : MethodP) (budget : Int) (hb : 0 ≤ budget) (n : Nat) (reqs : List Req)
    (hreq : ∀ r ∈ reqs, ReqOk p r) :
    ∀ c ∈ (deployDay p budget n reqs).crews,
      crewMinutes c.id (deployDay p budget n reqs).out + crewHome c.id (deployDay p budget n reqs).out
        ≤ budget := by
  intro c hc
  have h1 := ((deployDay_bookInv p budget hb n reqs hreq).crews c hc).fits
  have h2 := (deployDay_traceInv p budget n reqs).spent c hc
  have h3 := (deployDay_traceInv p budget n reqs).home c hc
  omega

/-- the budget is the workday, capped by daylight when the method is daylight sensitive -/
theorem budget_daylight (w d : Int) :
    dayBudget true w d = 60 * min w d ∧ dayBudget false w d = 60 * w ∧
    dayBudget true w d ≤ 60 * w ∧ dayBudget true w d ≤ 60 * d := by
  unfold dayBudget
  grind

/-- so no crew works (incl. travel and the trip home) longer than the workday, nor longer than
daylight when daylight is considered -/
theorem day_budget_workday (p : MethodP) (cd : Bool) (w d : Int) (hw : 0 ≤ w) (hd : 0 ≤ d) (n : Nat)
    (reqs : List Req) (hreq : ∀ r ∈ reqs, ReqOk p r) :
    ∀ c ∈ (deployDay p (dayBudget cd w d) n reqs).crews,
      crewMinutes c.id (deployDay p (dayBudget cd w d) n reqs).out
        + crewHome c.id (deployDay p (dayBudget cd w d) n reqs).out ≤ 60 * w ∧
      (cd = true → crewMinutes c.id (deployDay p (dayBudget cd w d) n reqs).out
        + crewHome c.id (deployDay p (dayBudget cd w d) n reqs).out ≤ 60 * d) := by
  intro c hc
  obtain ⟨h1, h2, h3, h4⟩ := budget_daylight w d
  cases cd with
  | false =>
    have h := day_budget p _ (h2 ▸ Int.mul_nonneg (by decide) hw) n reqs hreq c hc
    exact ⟨Int.le_trans h (Int.le_of_eq h2), nofun⟩
  | true =>
    have h := day_budget p _ (h1 ▸ Int.mul_nonneg (by decide) (le_min hw hd)) n reqs hreq c hc
    exact ⟨Int.le_trans h h3, fun _ => Int.le_trans h h4⟩

/-- every visit of the day splits the minutes it was handed exactly and leaves nothing negative -/
theorem day_visits (p : MethodP) (budget : Int) (hb : 0 ≤ budget) (n : Nat) (reqs : List Req)
    (hreq : ∀ r ∈ reqs, ReqOk p r) :
    ∀ o ∈ (deployDay p budget n reqs).out, ∀ s, o.step = some s →
      s.rem + s.travel + s.today = o.rBefore ∧ 0 ≤ s.rem ∧ 0 ≤ s.travel ∧ 0 ≤ s.today ∧
      (s.complete = true → s.travel ≤ s.rem) := by
  intro o ho s hs
  have hrec := (deployDay_recOk p budget n reqs o ho).1 s hs
  have hrb := (deployDay_bookInv p budget hb n reqs hreq).rb o ho
  obtain ⟨h1, h2, h3, h4, h5, _⟩ := step_minutes ((hreq o.req (deployDay_req_mem ho)).stepOk hrb) (workable p o.req)
  rw [hrec.1]
  exact ⟨h1, h2, h3, h4, fun hc => h5 (Or.inl ((step_complete_iff _ _ _ _ _ _).1 hc))⟩

/-- no more crews are used than the method has; every visit is made by one of its crews -/
theorem crews_used (p : MethodP) (budget : Int) (hb : 0 ≤ budget) (n : Nat) (reqs : List Req)
    (hreq : ∀ r ∈ reqs, ReqOk p r) :
    (deployDay p budget n reqs).crews.length = n ∧ countDeployed (deployDay p budget n reqs).crews ≤ n ∧
    ∀ o ∈ (deployDay p budget n reqs).out, ∀ k, o.crew = some k → k < n := by
  have h := deployDay_bookInv p budget hb n reqs hreq
  refine ⟨h.len, ?_, h.ids⟩
  have : countDeployed (deployDay p budget n reqs).crews ≤ (deployDay p budget n reqs).crews.length := by
    unfold countDeployed; exact List.length_filter_le _ _
  have hl := h.len
  omega

/-- **configured crews**: a mobile method configured with a positive `crew_count` has exactly that
many crews -- not LDAR-Sim's own estimate, however large -- so on any day no more than the configured
number of crews is deployed, every visit is made by a crew with id below it, and the crew-minutes of
the day (travel + survey + trips home, summed over crews) are within `crew_count x budget` -/
theorem configured_crews_bound (p : MethodP) (followUp : Bool) (configured estimate : Nat)
    (hst : p.stationary = false) (hc : 0 < configured) (budget : Int) (hb : 0 ≤ budget)
    (reqs : List Req) (hreq : ∀ r ∈ reqs, ReqOk p r) :
    let d := deployConfigured p followUp configured estimate budget reqs
    methodCrews p.stationary followUp configured estimate = configured ∧
    d.crews.length = configured ∧ countDeployed d.crews ≤ configured ∧
    (∀ o ∈ d.out, ∀ k, o.crew = some k → k < configured) ∧
    (d.crews.map (fun c => crewMinutes c.id d.out + crewHome c.id d.out)).sum ≤ configured * budget := by
  have hm : methodCrews p.stationary followUp configured estimate = configured := by
    unfold methodCrews; simp [hst, hc]
  simp only [deployConfigured, hm]
  have hcu := crews_used p budget hb configured reqs hreq
  refine ⟨trivial, hcu.1, hcu.2.1, hcu.2.2, ?_⟩
  -- every summand is within the budget, and there are `configured` of them
  have key : ∀ (f : CrewSt → Int) (cs : List CrewSt), (∀ c ∈ cs, f c ≤ budget) →
      (cs.map f).sum ≤ (cs.length : Int) * budget := by
    intro f cs h
    induction cs with
    | nil => simp
    | cons c cs ih =>
      have h1 := h c (by simp)
      have h2 := ih (fun x hx => h x (by simp [hx]))
      simp only [List.map_cons, List.sum_cons, List.length_cons, Int.natCast_add, Int.add_mul]
      omega
  have := key _ _ (day_budget p budget hb configured reqs hreq)
  rwa [hcu.1] at this

/-- what `crew_count` means in each case: stationary → one pseudo crew; positive → exactly that;
0 → the estimate (1 for a follow-up method) -/
theorem methodCrews_table (followUp : Bool) (configured estimate : Nat) :
    methodCrews true followUp configured estimate = 1 ∧
    (0 < configured → methodCrews false followUp configured estimate = configured) ∧
    methodCrews false true 0 estimate = 1 ∧ methodCrews false false 0 estimate = estimate := by
  unfold methodCrews
  refine ⟨by simp, fun h => by simp [h], by simp, by simp⟩

/-- weather, part 1: a site is visited only when its weather is workable, i.e. (when weather is
considered) temperature, wind and precipitation are all inside the method's envelope -/
theorem weather_visited (p : MethodP) (budget : Int) (n : Nat) (reqs : List Req) :
    ∀ o ∈ (deployDay p budget n reqs).out, ∀ s, o.step = some s → s.visited = true →
      workable p o.req = true ∧ (p.considerWeather = true → checkWeather p.env o.req.wx = true) := by
  intro o ho s hs hv
  have hrec := (deployDay_recOk p budget n reqs o ho).1 s hs
  rw [hrec.1, step_visited_iff] at hv
  refine ⟨hv, fun hc => ?_⟩
  simpa [workable, hc] using hv

theorem checkWeather_iff (e : Envelope) (w : Wx) :
    checkWeather e w = true ↔
      (w.tempMissing = false ∧ e.tempLo ≤ w.temp ∧ w.temp ≤ e.tempHi) ∧
      (w.windMissing = false ∧ e.windLo ≤ w.wind ∧ w.wind ≤ e.windHi) ∧
      (w.precipMissing = false ∧ e.precipLo ≤ w.precip ∧ w.precip ≤ e.precipHi) := by
  unfold checkWeather
  simp only [Bool.and_eq_true, decide_eq_true_eq, Bool.not_eq_true']
  constructor
  · rintro ⟨⟨⟨h1, h2⟩, ⟨h3, h4⟩⟩, ⟨h5, h6⟩⟩; exact ⟨⟨h5, h6⟩, ⟨h3, h4⟩, ⟨h1, h2⟩⟩
  · rintro ⟨⟨h5, h6⟩, ⟨h3, h4⟩, ⟨h1, h2⟩⟩; exact ⟨⟨⟨h1, h2⟩, ⟨h3, h4⟩⟩, ⟨h5, h6⟩⟩

/-- **a missing weather value is never workable**: if temperature, wind or precipitation at the
site's cell is missing (NaN in the weather file) the envelope test fails whatever the envelope, so
(`weather_visited`) a method that considers weather never visits the site that day and
(`weather_unworkable`) the request goes back to the queue untouched -/
theorem missing_never_workable (e : Envelope) (w : Wx)
    (h : w.tempMissing = true ∨ w.windMissing = true ∨ w.precipMissing = true) :
    checkWeather e w = false := by
  cases hc : checkWeather e w with
  | false => rfl
  | true =>
    have := (checkWeather_iff e w).1 hc
    rcases h with h | h | h <;> simp_all

theorem missing_not_visited (p : MethodP) (budget : Int) (n : Nat) (reqs : List Req)
    (hw : p.considerWeather = true) :
    ∀ o ∈ (deployDay p budget n reqs).out,
      (o.req.wx.tempMissing = true ∨ o.req.wx.windMissing = true ∨ o.req.wx.precipMissing = true) →
      ∀ s, o.step = some s → s.visited = false := by
  intro o ho hm s hs
  cases hv : s.visited with
  | false => rfl
  | true =>
    have := (weather_visited p budget n reqs o ho s hs hv).2 hw
    rw [missing_never_workable p.env o.req.wx hm] at this
    exact absurd this (by simp)

/-- weather, part 2: when the weather at a site is not workable its report is handed back unchanged
(no minutes, no flags) and the schedule re-queues the request -/
theorem weather_unworkable (p : MethodP) (budget : Int) (n : Nat) (reqs : List Req)
    (hreq : ∀ r ∈ reqs, ReqOk p r) :
    ∀ o ∈ (deployDay p budget n reqs).out, workable p o.req = false →
      o.rep = o.req.rep ∧ requeueClass o.rep ≠ none := by
  intro o ho hw
  have hrec := deployDay_recOk p budget n reqs o ho
  have hc := (hreq o.req (deployDay_req_mem ho)).hC
  have heq : o.rep = o.req.rep := by
    cases hs : o.step with
    | none => exact (hrec.2 hs).1
    | some s =>
      have := hrec.1 s hs
      rw [this.2.1, this.1, hw, step_unworkable]; rfl
  refine ⟨heq, ?_⟩
  rw [heq]; unfold requeueClass; simp [hc]
  split <;> simp

/-- one record (one report) per planned request, in plan order -/
theorem one_report_per_request (p : MethodP) (budget : Int) (n : Nat) (reqs : List Req) :
    (deployDay p budget n reqs).out.map (·.req) = reqs :=
  deployDay_reqs p budget n reqs

/-- **next-day invariant**: a report that `deploy_crews` hands back unfinished is again an admissible
request (`0 ≤ P ≤ S`, stationary ⇒ `P = 0`, not complete), so every theorem about one day applies to
the next day's plan built from today's reports -/
theorem out_reqOk (p : MethodP) (budget : Int) (hb : 0 ≤ budget) (n : Nat) (reqs : List Req)
    (hreq : ∀ r ∈ reqs, ReqOk p r) :
    ∀ o ∈ (deployDay p budget n reqs).out, o.rep.complete = false →
      ReqOk p { o.req with rep := o.rep } := by
  intro o ho hc
  have hrec := deployDay_recOk p budget n reqs o ho
  have hq := hreq o.req (deployDay_req_mem ho)
  cases hs : o.step with
  | none => rw [((hrec.2 hs).1)]; exact hq
  | some s =>
    obtain ⟨h1, h2, _⟩ := hrec.1 s hs
    have hrb := (deployDay_bookInv p budget hb n reqs hreq).rb o ho
    obtain ⟨s1, s2, s3, s4, s5⟩ := step_surveyed (hq.stepOk hrb) (workable p o.req)
    obtain ⟨a1, a2, a3⟩ :=
      applyStep_step o.req.rep o.rBefore o.req.S o.req.T p.stationary (workable p o.req)
    obtain ⟨hT, hP, hPS, hSt, _⟩ := hq
    rw [h2, h1] at hc ⊢
    generalize surveyStep o.rBefore o.req.S o.req.T o.req.rep.surveyed p.stationary (workable p o.req) = st at *
    have hnc : st.complete = false := by
      rw [a2] at hc; exact (Bool.or_eq_false_iff.1 hc).2
    -- a step that does not complete either leaves the survey in progress, strictly inside `(P, S)` and
    -- only for a mobile method, or leaves the minutes as they were
    cases hip : st.inProgress with
    | true =>
      obtain ⟨b1, b2, b3⟩ := s4 hip
      refine ⟨hT, ?_, ?_, fun h => absurd (b3.symm.trans h) Bool.noConfusion, hc⟩
      · show 0 ≤ (applyStep o.req.rep st).surveyed; omega
      · show (applyStep o.req.rep st).surveyed ≤ o.req.S; omega
    | false =>
      have e := a1.trans (s5 hnc hip)
      refine ⟨hT, ?_, ?_, fun h => ?_, hc⟩
      · show 0 ≤ (applyStep o.req.rep st).surveyed; omega
      · show (applyStep o.req.rep st).surveyed ≤ o.req.S; omega
      · show (applyStep o.req.rep st).surveyed = 0; rw [e]; exact hSt h

/-- C08, for every method, budget, crew count and work plan -/
theorem C08 : C08_statement := by
  refine ⟨fun p cd w dl n reqs hw hd hreq => ⟨?_, day_budget_workday p cd w dl hw hd n reqs hreq⟩, ?_⟩
  · have := budget_daylight w dl
    cases cd <;> simp [this]
  intro p budget n reqs hb hreq
  refine ⟨?_, day_visits p budget hb n reqs hreq, crews_used p budget hb n reqs hreq,
          weather_visited p budget n reqs, weather_unworkable p budget n reqs hreq,
          one_report_per_request p budget n reqs, out_reqOk p budget hb n reqs hreq⟩
  intro c hc
  exact ⟨day_rem_nonneg p budget hb n reqs hreq c hc, day_budget p budget hb n reqs hreq c hc⟩

/-- the same budget facts for fractional minutes (daylight hours are fractional): over any linearly
ordered field the step never leaves a negative remainder, splits the minutes exactly, and leaves
room for the trip home after a completed or partial survey -/
theorem step_budget_fractional {α : Type} [Field α] [LinearOrder α] [IsStrictOrderedRing α]
    (R S T P : α) (hR : 0 ≤ R) (hT : 0 ≤ T) (hP : 0 ≤ P) (hPS : P ≤ S) (w : Bool) :
    let o := stepG R S T P w
    o.rem + o.travel + o.today = R ∧ 0 ≤ o.rem ∧ 0 ≤ o.travel ∧ 0 ≤ o.today ∧
    (o.reached = true → o.travel ≤ o.rem) :=
  stepG_budget R S T P hR hT hPS w

theorem budget_daylight_fractional {α : Type} [Field α] [LinearOrder α] [IsStrictOrderedRing α]
    (w d : α) : dayBudgetG true w d = 60 * min w d ∧ dayBudgetG false w d = 60 * w :=
  dayBudgetG_eq w d

/-- the day loop does not depend on the unit of time: an instance whose minutes are rationals with
common denominator `k` is the integer instance measured in units of `1/k` minute, and measuring in a
finer unit changes no decision and scales every time output — so `day_budget`, `day_rem_nonneg`, …
hold for it verbatim (this is how the fractional-daylight correspondence feeds the driver) -/
theorem day_unit_free (k : Int) (hk : 0 < k) (p : MethodP) (budget : Int) (n : Nat) (reqs : List Req) :
    deployDay p (k * budget) n (reqs.map (scaleReq k)) = scaleDay k (deployDay p budget n reqs) ∧
    ∀ R S T P st w, surveyStep (k * R) (k * S) (k * T) (k * P) st w = scaleOut k (surveyStep R S T P st w) :=
  ⟨deployDay_scale k hk p budget n reqs, fun R S T P st w => surveyStep_scale k hk R S T P st w⟩

/-! ### table obligations (regenerated from /repo on every run: `Generated/CrewCost.lean`) -/

/-- the model has no state that survives from one `deploy_crews` call, method or day to the next
beyond what it is handed; the code it models must not have any either: no function of the modelled
modules mutates a class-level / module-level / imported constant container, none is cached -/
theorem crew_no_cross_case_state :
    Generated.CrewCost.sharedContainerMutations = [] ∧ Generated.CrewCost.cachedFunctions = [] ∧
    Generated.CrewCost.moduleLevelContainers = [] :=
  ⟨rfl, rfl, rfl⟩

/-- what is handed to a worker process arrives as it was sent: for every class with a pickling hook
the argument tuple of `__reduce__` lists the attributes in the order `_reconstruct` stores them -/
theorem pickle_roundtrip_order :
    ∀ e ∈ Generated.CrewCost.pickleOrder, e.2.2.1 = e.2.2.2 := by
  -- the two attribute lists of every entry are literally the same list
  simp only [Generated.CrewCost.pickleOrder, List.forall_mem_cons, List.not_mem_nil, false_implies,
    implies_true, and_self]

/-! ### non-vacuity -/

private def envOk : Envelope := { tempLo := -10, tempHi := 25, windLo := 0, windHi := 8, precipLo := 0, precipHi := 3 }
private def pM : MethodP := { stationary := false, perSite := true, unitCost := 50, considerWeather := true, env := envOk }
private def fine : Wx := { temp := 15, wind := 1, precip := 0 }
private def rain : Wx := { temp := 15, wind := 1, precip := 9 }

/-- two crews, four sites, 8 h: a 420-minute survey exhausts crew 0 exactly (420 + 2·30 = 480), a
rainy site is skipped, a long survey is left partial with the trip home reserved, one request finds
no crew -/
example :
    let reqs : List Req := [
      { site := 0, S := 420, siteCost := 0, rep := {}, T := 30, wx := fine },
      { site := 1, S := 60, siteCost := 0, rep := {}, T := 30, wx := rain },
      { site := 2, S := 600, siteCost := 0, rep := {}, T := 20, wx := fine },
      { site := 3, S := 60, siteCost := 0, rep := {}, T := 10, wx := fine }]
    let d := deployDay pM 480 2 reqs
    (∀ r ∈ reqs, r.T ≥ 0 ∧ r.rep.surveyed = 0 ∧ r.S ≥ 0) ∧
    d.crews.map (fun c => (c.id, c.rem, c.deployed, c.spent, c.home)) = [(0, 0, true, 450, 30), (1, 0, true, 460, 20)] ∧
    d.out.map (fun o => (o.crew, o.rep.surveyed, o.rep.complete, o.rep.inProgress)) =
      [(some 0, 420, true, false), (some 1, 0, false, false), (some 1, 440, false, true), (none, 0, false, false)] ∧
    d.stats.cost = 50 := by
  decide +kernel

example : dayBudget true 8 6 = 360 ∧ dayBudget true 8 14 = 480 ∧ dayBudget false 8 6 = 480 := by
  decide +kernel

end LdarModel.Crew
