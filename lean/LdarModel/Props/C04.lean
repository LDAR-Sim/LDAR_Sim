import LdarModel.Lemmas.Emission
import LdarModel.Lemmas.EmissionE
/-
C04 — a leak is repaired only after being tagged, exactly after the configured delays.
Model: `Model/Emission.lean`.  Day-granularity convention (DESIGN.md 5.4): a leak found on day `T`
still emits on day `T`; the repair takes effect `max 1 (repair delay + reporting delay)` days after
the tag date, i.e. the recorded end date is `T + max 1 δ`.
-/
namespace LdarModel.Emission

/-- a tag on an already tagged (or recorded) emission changes none of the tag fields -/
theorem C04_first_tag_wins (p : Params) (d : Int) (e : TagEv) (s : State) (h : s.tagged = true) :
    (tag p d e s).tagged = true ∧ (tag p d e s).by_ = s.by_ ∧ (tag p d e s).trd = s.trd ∧
    (tag p d e s).dst = s.dst ∧
    (s.initDetectBy ≠ none → (tag p d e s).initDetect = s.initDetect ∧
                              (tag p d e s).initDetectBy = s.initDetectBy) := by
  unfold tag detectRec; grind

theorem tags_idem (p : Params) (d : Int) (evs : List TagEv) (s : State)
    (h : s.status ≠ .active ∨ (s.tagged = true ∧ s.initDetectBy ≠ none)) :
    evs.foldl (fun s e => tag p d e s) s = s := by
  induction evs with
  | nil => rfl
  | cons e evs ih => rw [List.foldl_cons, tag_settled p d e s h, ih]

theorem day_ended (p : Params) (d : Int) (evs : List TagEv) (s : State)
    (h : s.status = .repaired ∨ s.status = .expired) : day p d evs s = s := by
  have h1 : activate p d s = s := by unfold activate; grind
  have h2 : s.status ≠ .active := by grind
  unfold day
  rw [h1, tags_idem p d evs s (Or.inl h2), update_eq, if_pos h2]

private def EndOk (p : Params) (s : State) : Prop :=
  ((s.status = .repaired ∨ s.status = .expired) → s.endDate = some (p.start + (s.activeDays + b4 p))) ∧
  ((s.status = .inactive ∨ s.status = .active) → s.endDate = none)

private theorem day_endOk (p : Params) (d : Int) (evs : List TagEv) (s : State) (h : EndOk p s) :
    EndOk p (day p d evs s) := by
  have h1 : EndOk p (activate p d s) := by unfold EndOk activate at *; grind
  obtain ⟨t1, t2, -, t3, -⟩ := tags_frame p d evs (activate p d s)
  unfold day; rw [update_eq]
  generalize evs.foldl (fun s e => tag p d e s) (activate p d s) = m at *
  generalize activate p d s = m0 at *
  have tf := toggle_frame p (counted p m)
  unfold EndOk endedAt at *
  grind

/-- the recorded end date always equals start date + total days active (days before the period
included); emissions that have not ended have no end date -/
theorem C04_end_date (p : Params) (ev : Nat → List TagEv) (N : Nat) :
    (((run p ev N).status = .repaired ∨ (run p ev N).status = .expired) →
        (run p ev N).endDate = some (p.start + ((run p ev N).activeDays + b4 p))) ∧
    (((run p ev N).status = .inactive ∨ (run p ev N).status = .active) →
        (run p ev N).endDate = none) := by
  induction N with
  | zero => simp [run, init]
  | succ n ih => rw [run_step]; exact day_endOk p n (ev n) _ ih

/-- a repairable leak that ended without being tagged by any company ended naturally, after exactly
its natural number of in-period days, on `max start 0 + L` -/
theorem C04_untagged_natural (p : Params) (hr : p.repairable = true) (ev : Nat → List TagEv) (N : Nat)
    (hs : (run p ev N).status = .repaired) (hc : ∀ c, (run p ev N).by_ ≠ .company c) :
    (run p ev N).by_ = .natural ∧ (run p ev N).activeDays = L p ∧
    (run p ev N).endDate = some (a p + L p) := by
  have hi := run_inv p hr ev N
  have hby := (hi.repaired_by hs).resolve_right fun ⟨c, h⟩ => hc c h
  exact ⟨hby, hi.natural_end hs hby⟩

/-! ### a program repair needs a tag, and lands exactly `max 1 δ` days after it -/

/-- `max 1 x` -/
def atLeastOne (x : Int) : Int := if x ≥ 1 then x else 1

theorem atLeastOne_eq_max (x : Int) : atLeastOne x = max 1 x := by unfold atLeastOne; omega

/-- history invariant after `n` complete days, for a repairable emission -/
def InvT (p : Params) (ev : Nat → List TagEv) (n : Nat) (s : State) : Prop :=
  (s.status = .active → (s.tagged = true ↔ s.initDetectBy ≠ none)) ∧
  (s.status = .inactive → s.tagged = false ∧ s.initDetectBy = none) ∧
  ((s.status = .inactive ∨ s.status = .active) → s.tagged = false →
      ∀ t : Nat, t < n → a p ≤ t → ev t = []) ∧
  (∀ c, s.by_ = .company c →
    ∃ T : Nat, T < n ∧ a p ≤ T ∧ s.initDetect = some (T : Int) ∧
      (∃ e rest, ev T = e :: rest ∧ e.company = c ∧ s.trd = e.trd) ∧
      (∀ t : Nat, t < T → a p ≤ t → ev t = []) ∧
      (s.status = .active → s.dst = n - T ∧ s.dst < p.repairDelay + s.trd) ∧
      (s.status = .repaired → s.endDate = some ((T : Int) + atLeastOne (p.repairDelay + s.trd))))

/-- the same in the middle of day `n` (after activation and the day's tags, before the update) -/
def InvTMid (p : Params) (ev : Nat → List TagEv) (n : Nat) (s : State) : Prop :=
  (s.status = .active → (s.tagged = true ↔ s.initDetectBy ≠ none)) ∧
  (s.status = .inactive → s.tagged = false ∧ s.initDetectBy = none) ∧
  ((s.status = .inactive ∨ s.status = .active) → s.tagged = false →
      (∀ t : Nat, t < n → a p ≤ t → ev t = []) ∧ (s.status = .active → ev n = [])) ∧
  (∀ c, s.by_ = .company c →
    ∃ T : Nat, T ≤ n ∧ a p ≤ T ∧ s.initDetect = some (T : Int) ∧
      (∃ e rest, ev T = e :: rest ∧ e.company = c ∧ s.trd = e.trd) ∧
      (∀ t : Nat, t < T → a p ≤ t → ev t = []) ∧
      (s.status = .active → s.dst = n - T ∧ (T < n → s.dst < p.repairDelay + s.trd)) ∧
      (s.status = .repaired → s.endDate = some ((T : Int) + atLeastOne (p.repairDelay + s.trd))))

theorem activate_T (p : Params) (ev : Nat → List TagEv) (n : Nat) (s : State)
    (hI : Inv p n s) (h : InvT p ev n s) : InvT p ev n (activate p n s) := by
  rcases activate_cases p n s with ⟨hs, hd, e⟩ | ⟨-, e⟩
  · -- a pending emission has no history: no tag, no company, and `n ≤ a p`
    obtain ⟨hn, hby⟩ := hI.pending hs
    obtain ⟨ht, hdb⟩ := h.2.1 hs
    rw [e]
    refine ⟨?_, ?_, ?_, ?_⟩
    · intro _; simp [ht, hdb]
    · intro h; cases h
    · intro _ _ t ht hat; omega
    · intro c (hc : s.by_ = .company c)
      rw [hc] at hby; cases hby
  · rw [e]; exact h

theorem tags_mid_T (p : Params) (hr : p.repairable = true) (ev : Nat → List TagEv) (n : Nat)
    (s : State) (hI : InvMid p n s) (h : InvT p ev n s) :
    InvTMid p ev n ((ev n).foldl (fun s e => tag p n e s) s) := by
  obtain ⟨h1, h2, h3, h4⟩ := h
  by_cases hid : s.status ≠ .active ∨ (s.tagged = true ∧ s.initDetectBy ≠ none)
  · rw [tags_idem p n (ev n) s hid]
    refine ⟨h1, h2, fun hst htf => ⟨h3 hst htf, fun hact => ?_⟩, fun c hc => ?_⟩
    · rcases hid with h | h
      · exact absurd hact h
      · rw [htf] at h; cases h.1
    obtain ⟨T, hT, r1, r2, r3, r4, hact, r5⟩ := h4 c hc
    exact ⟨T, by omega, r1, r2, r3, r4, fun hs => ⟨(hact hs).1, fun _ => (hact hs).2⟩, r5⟩
  · -- active, untagged, not on record: the first request of the day, if any, is the first ever
    have hact : s.status = .active := Decidable.not_not.1 fun h => hid (.inl h)
    have htag : s.tagged = false :=
      Bool.eq_false_iff.2 fun ht => hid (.inr ⟨ht, (h1 hact).1 ht⟩)
    have hidb : s.initDetectBy = none :=
      Decidable.not_not.1 fun hb => by simp [(h1 hact).2 hb] at htag
    obtain ⟨ha, hnone⟩ := hI.untagged hact htag
    cases hev : ev n with
    | nil =>
      refine ⟨h1, h2, fun hst htf => ⟨h3 hst htf, fun _ => hev⟩, fun c hc => ?_⟩
      rw [List.foldl_nil, hnone.1] at hc; cases hc
    | cons e rest =>
      rw [List.foldl_cons, tag_fresh p n e s hact htag hidb,
        tags_idem p n rest _ (Or.inr ⟨rfl, by simp⟩)]
      refine ⟨by simp, by simp [hact], by simp, fun c hc => ?_⟩
      simp only [By.company.injEq] at hc
      exact ⟨n, Nat.le_refl n, ha, rfl, ⟨e, rest, hev, hc, by simp [hr]⟩, h3 (Or.inr hact) htag,
        fun _ => ⟨by simp [hnone.2], fun h => absurd h (Nat.lt_irrefl n)⟩,
        fun hs => by simp [hact] at hs⟩

theorem update_T (p : Params) (hr : p.repairable = true) (ev : Nat → List TagEv) (n : Nat)
    (s : State) (hI : InvMid p n s) (h : InvTMid p ev n s) : InvT p ev (n + 1) (update p s) := by
  unfold InvMid at hI
  obtain ⟨h1, h2, h3, h4⟩ := h
  obtain ⟨f1, f2, f3⟩ := update_frame p s
  have tf := toggle_frame p (counted p s)
  have he := endedAt_eq p (counted p s)
  generalize hu : update p s = u at *
  rw [update_eq] at hu
  have hk : (u.status = .active → (u.tagged = true ↔ u.initDetectBy ≠ none)) ∧
      (u.status = .inactive → u.tagged = false ∧ u.initDetectBy = none) ∧
      ((u.status = .inactive ∨ u.status = .active) → u.tagged = false →
        (s.status = .inactive ∨ s.status = .active) ∧ s.tagged = false) ∧
      (∀ c, u.by_ = .company c → s.by_ = .company c) := by
    clear h3 h4; grind
  refine ⟨hk.1, hk.2.1, ?_, ?_⟩
  · -- still untagged: it was untagged before the update, so nothing reached it, today included
    intro hst htf
    obtain ⟨hs, ht⟩ := hk.2.2.1 hst htf
    obtain ⟨g1, g2⟩ := h3 hs ht
    refine Nat.forall_lt_succ_right.2 ⟨g1, fun hat => ?_⟩
    rcases hs with hin | hac
    · have := InvMid.pending hI hin; omega
    · exact g2 hac
  · -- the record of the first tag is carried along; the day count and the end date are checked
    intro c hc
    obtain ⟨T, hT, haT, hdet, hev, hno, hact, hrp⟩ := h4 c (hk.2.2.2 c hc)
    refine ⟨T, by omega, haT, by rw [f1]; exact hdet, by rw [f3]; exact hev, hno, ?_⟩
    clear h3 h4 hno hev hk; unfold atLeastOne at *; grind

theorem mid_T (p : Params) (hr : p.repairable = true) (ev : Nat → List TagEv) (n : Nat) :
    let m := (ev n).foldl (fun s e => tag p n e s) (activate p n (run p ev n))
    InvT p ev n (run p ev n) → InvMid p n m ∧ InvTMid p ev n m := by
  intro m hT
  have hI := run_inv p hr ev n
  have hA := activate_mid p n _ hI
  exact ⟨tags_mid p n (ev n) _ hA, tags_mid_T p hr ev n _ hA (activate_T p ev n _ hI hT)⟩

theorem run_invT (p : Params) (hr : p.repairable = true) (ev : Nat → List TagEv) (n : Nat) :
    InvT p ev n (run p ev n) := by
  induction n with
  | zero =>
    unfold InvT run init
    refine ⟨by simp, by simp, ?_, by simp⟩
    intro _ _ t ht; omega
  | succ n ih =>
    obtain ⟨hM, hT⟩ := mid_T p hr ev n ih
    exact update_T p hr ev n _ hM hT

/-- C04 main theorem: if a leak ends the run repaired by company `c`, then on some day `T` inside
the period, while the leak was active, the first tag request that ever reached it came from `c`;
no tag request reached it on an earlier active day (first tag wins); its reporting delay is the one
of that request; the recorded detection date is `T`; and the repair took effect exactly
`max 1 (repair delay + reporting delay)` days after `T` — never earlier, never later. -/
theorem C04_repair_needs_tag (p : Params) (hr : p.repairable = true) (ev : Nat → List TagEv)
    (N : Nat) (c : Nat) (hs : (run p ev N).status = .repaired) (hc : (run p ev N).by_ = .company c) :
    ∃ T : Nat, T < N ∧ a p ≤ T ∧ (run p ev N).initDetect = some (T : Int) ∧
      (∃ e rest, ev T = e :: rest ∧ e.company = c ∧
        (run p ev N).endDate = some ((T : Int) + atLeastOne (p.repairDelay + e.trd))) ∧
      (∀ t : Nat, t < T → a p ≤ t → ev t = []) := by
  obtain ⟨T, hT, haT, hdet, ⟨e, rest, hev, hec, htrd⟩, hno, _, hrep⟩ := (run_invT p hr ev N).2.2.2 c hc
  refine ⟨T, hT, haT, hdet, ⟨e, rest, hev, hec, ?_⟩, hno⟩
  rw [← htrd]; exact hrep hs

/-- while a tagged leak waits for its repair it is still active and the count of days since the
tag is exact: the repair cannot come earlier than the configured delays -/
theorem C04_not_earlier (p : Params) (hr : p.repairable = true) (ev : Nat → List TagEv)
    (N : Nat) (c : Nat) (hs : (run p ev N).status = .active) (hc : (run p ev N).by_ = .company c) :
    ∃ T : Nat, T < N ∧ (run p ev N).initDetect = some (T : Int) ∧
      (run p ev N).dst = N - T ∧ (run p ev N).dst < p.repairDelay + (run p ev N).trd := by
  obtain ⟨T, hT, _, hdet, _, _, hact, _⟩ := (run_invT p hr ev N).2.2.2 c hc
  exact ⟨T, hT, hdet, (hact hs).1, (hact hs).2⟩

/-- C04 over the simulator's real day loop: tag requests mixed with detection-only events of
screening methods.  `T` is the first day a *tag request* reached the active leak. -/
theorem C04_repair_needs_tag_E (p : Params) (hr : p.repairable = true) (ev : Nat → List Ev)
    (N : Nat) (c : Nat) (hs : (runE p ev N).status = .repaired) (hc : (runE p ev N).by_ = .company c) :
    ∃ T : Nat, T < N ∧ a p ≤ T ∧
      (∃ e rest, tagsOf (ev T) = e :: rest ∧ e.company = c ∧
        (runE p ev N).endDate = some ((T : Int) + atLeastOne (p.repairDelay + e.trd))) ∧
      (∀ t : Nat, t < T → a p ≤ t → tagsOf (ev t) = []) := by
  obtain ⟨i, b, e⟩ := runE_eq p ev N
  rw [e] at hs hc ⊢
  obtain ⟨T, hT, haT, -, h, hno⟩ := C04_repair_needs_tag p hr _ N c hs hc
  exact ⟨T, hT, haT, h, hno⟩

theorem C04_end_date_E (p : Params) (ev : Nat → List Ev) (N : Nat) :
    (((runE p ev N).status = .repaired ∨ (runE p ev N).status = .expired) →
        (runE p ev N).endDate = some (p.start + ((runE p ev N).activeDays + b4 p))) ∧
    (((runE p ev N).status = .inactive ∨ (runE p ev N).status = .active) →
        (runE p ev N).endDate = none) := by
  obtain ⟨i, b, e⟩ := runE_eq p ev N
  rw [e]
  exact C04_end_date p _ N

theorem C04_untagged_natural_E (p : Params) (hr : p.repairable = true) (ev : Nat → List Ev) (N : Nat)
    (hs : (runE p ev N).status = .repaired) (hc : ∀ c, (runE p ev N).by_ ≠ .company c) :
    (runE p ev N).by_ = .natural ∧ (runE p ev N).activeDays = L p ∧
    (runE p ev N).endDate = some (a p + L p) := by
  obtain ⟨i, b, e⟩ := runE_eq p ev N
  rw [e] at hs hc ⊢
  exact C04_untagged_natural p hr _ N hs hc

/-- tagging calls are issued only by a *completed* survey and only for components whose detection
report has a measured rate > 0 -/
theorem C04_tag_needs_completed_survey (complete : Bool) (dets : List (Nat × Int)) (c : Nat)
    (h : c ∈ tagCalls complete dets) : complete = true ∧ ∃ r, (c, r) ∈ dets ∧ r > 0 := by
  unfold tagCalls at h
  cases complete
  · simp at h
  · simp only [if_true, List.mem_map, List.mem_filter] at h
    obtain ⟨⟨c', r⟩, ⟨hm, hr⟩, hc⟩ := h
    simp only at hc hr
    subst hc
    exact ⟨rfl, r, hm, by simpa using hr⟩

/-- a sampled repair delay is one of the configured values -/
theorem C04_delay_from_list (l : List Int) (i : Nat) (d : Int) (h : sampleDelay l i = some d) :
    d ∈ l := by
  unfold sampleDelay at h
  exact List.mem_of_getElem? h

/-- **never later**: a repairable leak that is still active after `N` days either was never reached by
a tag request on an active day, or its first tag request came on day `T` and fewer than
`repair delay + reporting delay` days have passed since — a tagged leak is never left waiting beyond
the configured delays -/
theorem C04_never_later (p : Params) (hr : p.repairable = true) (ev : Nat → List TagEv) (N : Nat)
    (hs : (run p ev N).status = .active) :
    (∀ t : Nat, t < N → a p ≤ t → ev t = []) ∨
    ∃ (T : Nat) (e : TagEv) (rest : List TagEv), T < N ∧ a p ≤ T ∧ ev T = e :: rest ∧
      (∀ t : Nat, t < T → a p ≤ t → ev t = []) ∧ (N : Int) - T < p.repairDelay + e.trd := by
  obtain ⟨-, -, h3, h4⟩ := run_invT p hr ev N
  cases ht : (run p ev N).tagged
  · left; exact h3 (Or.inr hs) ht
  · right
    obtain ⟨c, hby⟩ := (run_inv p hr ev N).tagged_by hs ht
    obtain ⟨T, hTN, haT, _, ⟨e, rest, hev, _, htrd⟩, hno, hact, _⟩ := h4 c hby
    have := hact hs
    exact ⟨T, e, rest, hTN, haT, hev, hno, by rw [← htrd]; omega⟩

/-- **the first tag stays**, whatever the status (waiting, repaired): the company on record is the
issuer of the first tag request that reached the active leak, the reporting delay and the detection
date are those of that request (direct projection of `run_invT`) -/
theorem C04_first_tag_stays (p : Params) (hr : p.repairable = true) (ev : Nat → List TagEv) (N : Nat)
    (c : Nat) (hc : (run p ev N).by_ = .company c) :
    ∃ (T : Nat) (e : TagEv) (rest : List TagEv), T < N ∧ a p ≤ T ∧ ev T = e :: rest ∧ e.company = c ∧
      (run p ev N).trd = e.trd ∧ (run p ev N).initDetect = some (T : Int) ∧
      (∀ t : Nat, t < T → a p ≤ t → ev t = []) := by
  obtain ⟨T, hT, haT, hdet, ⟨e, rest, hev, hec, htrd⟩, hno, _, _⟩ := (run_invT p hr ev N).2.2.2 c hc
  exact ⟨T, e, rest, hT, haT, hev, hec, htrd, hdet, hno⟩

/-- history invariant for leaks that ended naturally -/
def InvNF (p : Params) (ev : Nat → List TagEv) (s : State) : Prop :=
  s.status = .repaired → s.by_ = .natural →
    ∃ m : Nat, s.endDate = some (m : Int) ∧
      ((∀ t : Nat, t < m → a p ≤ t → ev t = []) ∨
       ∃ (T : Nat) (e : TagEv) (rest : List TagEv), T < m ∧ a p ≤ T ∧ ev T = e :: rest ∧
         (∀ t : Nat, t < T → a p ≤ t → ev t = []) ∧
         (m : Int) < T + atLeastOne (p.repairDelay + e.trd))

theorem run_invNF (p : Params) (hr : p.repairable = true) (ev : Nat → List TagEv) (n : Nat) :
    InvNF p ev (run p ev n) := by
  induction n with
  | zero => intro hs; cases hs
  | succ n ih =>
    by_cases hrs : (run p ev n).status = .repaired
    · rw [run_step, day_ended p n (ev n) _ (Or.inl hrs)]; exact ih
    · -- repaired today: the state `m` the update saw was active and its natural end was due
      obtain ⟨hM, -, -, t3, t4⟩ := mid_T p hr ev n (run_invT p hr ev n)
      have hst : ((ev n).foldl (fun s e => tag p n e s) (activate p n (run p ev n))).status
          ≠ .repaired := by
        rw [(tags_frame p n (ev n) _).1]; unfold activate; grind
      show InvNF p ev (update p _)
      generalize (ev n).foldl (fun s e => tag p n e s) (activate p n (run p ev n)) = m at *
      intro hs hby
      have he := endedAt_eq p (counted p m)
      have tf := toggle_frame p (counted p m)
      unfold InvMid at hM
      obtain ⟨hact, hnd, hend⟩ : m.status = .active ∧
          ¬ (m.tagged = true ∧ m.dst + 1 ≥ p.repairDelay + m.trd) ∧
          (update p m).endDate = some ((n + 1 : Nat) : Int) := by
        clear t3 t4; generalize hu : update p m = u at *; rw [update_eq] at hu; grind
      refine ⟨n + 1, hend, ?_⟩
      cases ht : m.tagged
      · left
        obtain ⟨g1, g2⟩ := t3 (Or.inr hact) ht
        exact Nat.forall_lt_succ_right.2 ⟨g1, fun _ => g2 hact⟩
      · -- tagged on day `T`, `n − T` days ago, and the repair not yet due
        right
        obtain ⟨c, hc⟩ := InvMid.tagged_by hM hact ht
        obtain ⟨T, hT, haT, -, ⟨e, rest, hev, -, htrd⟩, hno, hdst, -⟩ := t4 c hc
        refine ⟨T, e, rest, by omega, haT, hev, hno, ?_⟩
        have := (hdst hact).1
        have : ¬ m.dst + 1 ≥ p.repairDelay + m.trd := fun h => hnd ⟨ht, h⟩
        rw [atLeastOne_eq_max, ← htrd]; push_cast; omega

/-- **unless the natural end comes first**: a leak that ended `natural` ended on its natural end date
`max start 0 + L`, and either no tag request reached it on any of its active days, or the first one
came on day `T` and the natural end was *strictly* before `T + max 1 (repair delay + reporting
delay)` (on a tie the program repair wins) -/
theorem C04_natural_first (p : Params) (hr : p.repairable = true) (ev : Nat → List TagEv) (N : Nat)
    (hs : (run p ev N).status = .repaired) (hby : (run p ev N).by_ = .natural) :
    (run p ev N).endDate = some (a p + L p) ∧
    ((∀ t : Nat, a p ≤ t → (t : Int) < a p + L p → ev t = []) ∨
     ∃ (T : Nat) (e : TagEv) (rest : List TagEv), a p ≤ T ∧ (T : Int) < a p + L p ∧ ev T = e :: rest ∧
       (∀ t : Nat, t < T → a p ≤ t → ev t = []) ∧
       a p + L p < T + atLeastOne (p.repairDelay + e.trd)) := by
  obtain ⟨m, hm, h⟩ := run_invNF p hr ev N hs hby
  have hend := ((run_inv p hr ev N).natural_end hs hby).2
  have hmL : (m : Int) = a p + L p := by rw [hm] at hend; injection hend
  refine ⟨hend, ?_⟩
  rcases h with h | ⟨T, e, rest, hTm, haT, hev, hno, hlt⟩
  · left; intro t hat htl; exact h t (by omega) hat
  · right; exact ⟨T, e, rest, haT, by omega, hev, hno, by omega⟩

/-! #### the same three over the simulator's real day loop (tag requests mixed with detection-only events) -/

theorem C04_never_later_E (p : Params) (hr : p.repairable = true) (ev : Nat → List Ev) (N : Nat)
    (hs : (runE p ev N).status = .active) :
    (∀ t : Nat, t < N → a p ≤ t → tagsOf (ev t) = []) ∨
    ∃ (T : Nat) (e : TagEv) (rest : List TagEv), T < N ∧ a p ≤ T ∧ tagsOf (ev T) = e :: rest ∧
      (∀ t : Nat, t < T → a p ≤ t → tagsOf (ev t) = []) ∧ (N : Int) - T < p.repairDelay + e.trd := by
  obtain ⟨i, b, e⟩ := runE_eq p ev N
  rw [e] at hs
  exact C04_never_later p hr _ N hs

theorem C04_natural_first_E (p : Params) (hr : p.repairable = true) (ev : Nat → List Ev) (N : Nat)
    (hs : (runE p ev N).status = .repaired) (hby : (runE p ev N).by_ = .natural) :
    (runE p ev N).endDate = some (a p + L p) ∧
    ((∀ t : Nat, a p ≤ t → (t : Int) < a p + L p → tagsOf (ev t) = []) ∨
     ∃ (T : Nat) (e : TagEv) (rest : List TagEv), a p ≤ T ∧ (T : Int) < a p + L p ∧
       tagsOf (ev T) = e :: rest ∧ (∀ t : Nat, t < T → a p ≤ t → tagsOf (ev t) = []) ∧
       a p + L p < T + atLeastOne (p.repairDelay + e.trd)) := by
  obtain ⟨i, b, e⟩ := runE_eq p ev N
  rw [e] at hs hby ⊢
  exact C04_natural_first p hr _ N hs hby

theorem C04_first_tag_stays_E (p : Params) (hr : p.repairable = true) (ev : Nat → List Ev) (N : Nat)
    (c : Nat) (hc : (runE p ev N).by_ = .company c) :
    ∃ (T : Nat) (e : TagEv) (rest : List TagEv), T < N ∧ a p ≤ T ∧ tagsOf (ev T) = e :: rest ∧
      e.company = c ∧ (runE p ev N).trd = e.trd ∧
      (∀ t : Nat, t < T → a p ≤ t → tagsOf (ev t) = []) := by
  obtain ⟨i, b, e⟩ := runE_eq p ev N
  rw [e] at hc ⊢
  obtain ⟨T, e, rest, hT, haT, hev, hec, htrd, -, hno⟩ := C04_first_tag_stays p hr _ N c hc
  exact ⟨T, e, rest, hT, haT, hev, hec, htrd, hno⟩

/-- every tag request a survey step issues (`tagEvs`, compared with the real
`ComponentLevelMethod.survey_site` on every run) comes from a *completed* survey, concerns a component
whose detection report carries a measured rate > 0, and carries the surveying method's own name and
reporting delay -/
theorem C04_tag_event_fields (m : Nat) (trd : Int) (complete : Bool) (dets : List (Nat × Int))
    (x : Nat × TagEv) (h : x ∈ tagEvs m trd complete dets) :
    complete = true ∧ x.2.company = m ∧ x.2.trd = trd ∧ ∃ r, (x.1, r) ∈ dets ∧ r > 0 := by
  unfold tagEvs at h
  simp only [List.mem_map] at h
  obtain ⟨c, hc, hx⟩ := h
  obtain ⟨h1, r, hr, hpos⟩ := C04_tag_needs_completed_survey complete dets c hc
  subst hx
  exact ⟨h1, rfl, rfl, r, hr, hpos⟩

/-- an incomplete survey step issues no tag request and leaves the site's latest tagging survey date
alone; a completed one moves it to the current day -/
theorem C04_incomplete_survey_no_tags (m : Nat) (trd : Int) (dets : List (Nat × Int)) (prev cur : Int) :
    tagEvs m trd false dets = [] ∧ latestTaggingSurvey false prev cur = prev ∧
    latestTaggingSurvey true prev cur = cur := by
  unfold tagEvs tagCalls latestTaggingSurvey; simp

/-- non-vacuity: tagged on day 3 by company 2 (reporting delay 1, repair delay 2) → ends day 6 -/
example :
    let p : Params := { start := 1, nrd := 30, repairDelay := 2, repairable := true,
                        intermittent := false, activeDur := 1, inactiveDur := 0 }
    let ev : Nat → List TagEv := fun d => if d = 3 then [{ company := 2, trd := 1 }, { company := 5, trd := 0 }]
                                          else if d = 4 then [{ company := 5, trd := 0 }] else []
    (run p ev 10).status = .repaired ∧ (run p ev 10).by_ = .company 2 ∧
    (run p ev 10).endDate = some 6 ∧ (run p ev 10).initDetect = some 3 := by
  decide +kernel

/-- non-vacuity of `C04_never_later` (second alternative), `C04_natural_first` (second alternative) -/
example :
    let p : Params := { start := 0, nrd := 10, repairDelay := 5, repairable := true,
                        intermittent := false, activeDur := 1, inactiveDur := 0 }
    let ev : Nat → List TagEv := fun d => if d = 7 then [{ company := 1, trd := 1 }] else []
    (run p ev 9).status = .active ∧ (run p ev 9).by_ = .company 1 ∧
    (run p ev 20).status = .repaired ∧ (run p ev 20).by_ = .natural ∧ (run p ev 20).endDate = some 10 ∧
    a p + L p < 7 + atLeastOne (p.repairDelay + 1) := by
  decide +kernel

example : tagEvs 3 2 true [(0, 5), (1, 0), (2, -3), (0, 7)] = [(0, ⟨3, 2⟩), (0, ⟨3, 2⟩)]
    ∧ sampleDelay [4, 5, 6] 4 = some 5 := by
  decide +kernel

/-! ### calendar: the life-cycle depends on relative days only -/

/-- the event schedule of a period that starts `k` days later -/
def shiftEv (k : Nat) (ev : Nat → List TagEv) : Nat → List TagEv :=
  fun d => if d < k then [] else ev (d - k)

/-- a state with its two recorded dates moved by `k` days -/
def shiftState (k : Int) (s : State) : State :=
  { s with endDate := s.endDate.map (· + k), initDetect := s.initDetect.map (· + k) }

def shiftP (k : Nat) (p : Params) : Params := { p with start := p.start + k }

private theorem b4_shift (p : Params) (h0 : 0 ≤ p.start) (k : Nat) : b4 (shiftP k p) = 0 ∧ b4 p = 0 := by
  unfold b4 shiftP; simp only; constructor <;> split <;> omega

private theorem activate_shift (p : Params) (k : Nat) (n : Int) (s : State) :
    activate (shiftP k p) (n + k) (shiftState k s) = shiftState k (activate p n s) := by
  have h : (shiftP k p).start ≤ n + k ↔ p.start ≤ n := by simp only [shiftP]; omega
  unfold activate
  simp only [h, apply_ite (shiftState (k : Int))]
  rfl

private theorem tag_shift (p : Params) (k : Nat) (n : Int) (e : TagEv) (s : State) :
    tag (shiftP k p) (n + k) e (shiftState k s) = shiftState k (tag p n e s) := by
  unfold tag detectRec shiftState shiftP
  simp only
  by_cases h1 : s.status = .active <;> by_cases h2 : s.tagged = true <;> by_cases h3 : s.initDetectBy = none <;>
    simp [h1, h2, h3]

private theorem tags_shift (p : Params) (k : Nat) (n : Int) (evs : List TagEv) (s : State) :
    evs.foldl (fun s e => tag (shiftP k p) (n + k) e s) (shiftState k s)
      = shiftState k (evs.foldl (fun s e => tag p n e s) s) := by
  induction evs generalizing s with
  | nil => rfl
  | cons e evs ih => simp only [List.foldl_cons]; rw [tag_shift, ih]

private theorem toggle_shift (p : Params) (k : Nat) (s : State) :
    toggle (shiftP k p) (shiftState k s) = shiftState k (toggle p s) := by
  unfold toggle
  simp only [apply_ite (shiftState (k : Int))]
  rfl

private theorem update_shift (p : Params) (h0 : 0 ≤ p.start) (k : Nat) (s : State) :
    update (shiftP k p) (shiftState k s) = shiftState k (update p s) := by
  have hb := b4_shift p h0 k
  have he (t : State) : endedAt (shiftP k p) (shiftState k t) = endedAt p t + k := by
    unfold endedAt; rw [hb.1, hb.2]; simp only [shiftP, shiftState]; omega
  have hc : counted (shiftP k p) (shiftState k s) = shiftState k (counted p s) := rfl
  -- both sides test the same conditions: `update` reads neither of the two dates
  rw [update_eq, update_eq p, hc, he, toggle_shift, hb.1, hb.2]
  simp only [apply_ite (shiftState (k : Int))]
  rfl

private theorem day_shift (p : Params) (h0 : 0 ≤ p.start) (k : Nat) (n : Int) (evs : List TagEv) (s : State) :
    day (shiftP k p) (n + k) evs (shiftState k s) = shiftState k (day p n evs s) := by
  unfold day
  rw [activate_shift, tags_shift, update_shift p h0]

/-- before the shifted period's leak can start nothing happens -/
private theorem run_shift_pre (p : Params) (h0 : 0 ≤ p.start) (ev : Nat → List TagEv) (k j : Nat) (hj : j ≤ k) :
    run (shiftP k p) (shiftEv k ev) j = init := by
  induction j with
  | zero => rfl
  | succ j ih =>
    have he : shiftEv k ev j = [] := by simp [shiftEv]; omega
    have : ¬ (p.start + (k : Int) ≤ (j : Int)) := by omega
    rw [run, ih (by omega), he]
    simp [day, activate, update, shiftP, init, this]

/-- **the life-cycle is calendar-free**: the same leak (start relative to the first simulated day, same
parameters) facing the same tag requests in a period that begins `k` days later goes through exactly the
same states; only its two recorded dates (end date, first detection) move by `k` days.  In particular a
period shifted by a whole year, across a leap day or New Year, changes no day count, no status, no
mitigation. -/
theorem run_shift (p : Params) (h0 : 0 ≤ p.start) (ev : Nat → List TagEv) (k N : Nat) :
    run (shiftP k p) (shiftEv k ev) (N + k) = shiftState k (run p ev N) := by
  induction N with
  | zero =>
    rw [Nat.zero_add, run_shift_pre p h0 ev k k (Nat.le_refl k)]
    rfl
  | succ N ih =>
    have he : shiftEv k ev (N + k) = ev N := by simp [shiftEv]; omega
    rw [show N + 1 + k = (N + k) + 1 by omega, run, ih, he, Int.natCast_add]
    exact day_shift p h0 k N (ev N) _

/-- what the records report is the same in the shifted period -/
theorem C04_period_shift (p : Params) (h0 : 0 ≤ p.start) (ev : Nat → List TagEv) (k N : Nat) :
    let s' := run (shiftP k p) (shiftEv k ev) (N + k)
    let s := run p ev N
    s'.status = s.status ∧ s'.activeDays = s.activeDays ∧ s'.by_ = s.by_ ∧ s'.tagged = s.tagged ∧
    emitDays (shiftP k p) s' = emitDays p s ∧
    s'.endDate = s.endDate.map (· + (k : Int)) ∧ s'.initDetect = s.initDetect.map (· + (k : Int)) ∧
    mitDays (shiftP k p) s' (summaryEndArg (N + k)) = mitDays p s (summaryEndArg N) := by
  simp only
  rw [run_shift p h0 ev k N]
  refine ⟨rfl, rfl, rfl, rfl, rfl, rfl, rfl, ?_⟩
  have hb := b4_shift p h0 k
  unfold mitDays summaryEndArg
  rw [hb.1, hb.2]
  unfold shiftState shiftP
  simp only
  have : p.start + (k : Int) + p.nrd - ((N + k : Nat) : Int) = p.start + p.nrd - (N : Int) := by push_cast; omega
  rw [this]

example :
    let p : Params := { start := 1, nrd := 30, repairDelay := 2, repairable := true,
                        intermittent := false, activeDur := 1, inactiveDur := 0 }
    let ev : Nat → List TagEv := fun d => if d = 3 then [{ company := 2, trd := 1 }] else []
    (run (shiftP 5 p) (shiftEv 5 ev) 15).endDate = some 11 ∧ (run p ev 10).endDate = some 6 := by
  decide +kernel

/-! ### fractional repair delays: an integer day counter reaches a rational threshold at its ceiling -/

/-- `⌈a / b⌉` for `b > 0` -/
def ceilDiv (a b : Int) : Int := (a + b - 1) / b

theorem ceilDiv_le_iff (a b n : Int) (hb : 0 < b) : ceilDiv a b ≤ n ↔ a ≤ n * b := by
  unfold ceilDiv
  rw [← Int.lt_add_one_iff, Int.ediv_lt_iff_lt_mul hb, Int.add_mul, Int.one_mul]
  omega

/-- **fractional repair delays.**  The code repairs on the first daily update with
`days since tagged ≥ repair delay + reporting delay`; the day counter and the reporting delay are
integers, the configured repair delay may be a fraction `a / b` of a day.  That test is the model's
test with the integer delay `⌈a / b⌉`: a fractional delay acts exactly like its ceiling (never
earlier than the configured delay, and on the first day that is not earlier). -/
theorem C04_fractional_delay (dst trd a b : Int) (hb : 0 < b) :
    (a + trd * b ≤ dst * b) ↔ (ceilDiv a b + trd ≤ dst) := by
  have h := ceilDiv_le_iff a b (dst - trd) hb
  rw [Int.sub_mul] at h
  omega

theorem ceilDiv_whole (k b : Int) (hb : 0 < b) : ceilDiv (k * b) b = k := by
  have h1 := ceilDiv_le_iff (k * b) b k hb
  have h2 := ceilDiv_le_iff (k * b) b (k - 1) hb
  rw [Int.sub_mul, Int.one_mul] at h2
  omega

/-- the model fed with `⌈a / b⌉` takes the repair branch of `update` exactly when the code's own test
with the fractional delay holds -/
theorem C04_fractional_update_test (p : Params) (s : State) (a b : Int) (hb : 0 < b)
    (hd : p.repairDelay = ceilDiv a b) :
    (s.dst + 1 ≥ p.repairDelay + s.trd) ↔ (a + s.trd * b ≤ (s.dst + 1) * b) := by
  rw [hd]
  exact (C04_fractional_delay (s.dst + 1) s.trd a b hb).symm

example : ceilDiv 5 2 = 3 ∧ ceilDiv 13 2 = 7 ∧ ceilDiv 3 4 = 1 ∧ ceilDiv 41 4 = 11 ∧ ceilDiv 0 4 = 0 := by decide

end LdarModel.Emission
