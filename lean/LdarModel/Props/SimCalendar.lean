import LdarModel.Props.Sim
import LdarModel.Lemmas.Calendar
import LdarModel.Props.C06
/-
The two calendars of the model agree.

`Sim.dateOf` (the day loop's calendar: `nextDate` iterated from the start date, validated against Python's
`datetime` on every whole run by `./check SIM`) and `Summary.Date.ord` (days since 1970-01-01, the ordinal
the summary statistics of C14 — yearly share, days active — subtract) are two independent definitions of
the Gregorian calendar.  `ord_nextDate` shows that one step of the first adds exactly one to the second,
for every valid date of every year (leap years, century years, month and year ends included), hence
`ord_dateOf`: the date of day `n` has ordinal `ord start + n`, i.e. differences of ordinals taken by the
summaries are exactly numbers of simulated days.
-/
namespace LdarModel.Sim
open LdarModel

def toSummaryDate (d : Sched.Date) : Summary.Date := { y := d.y, m := d.m, d := d.d }

def ordOf (d : Sched.Date) : Int := (toSummaryDate d).ord

theorem isLeap_iff (y : Nat) : isLeap y = true ↔ ((y % 4 = 0 ∧ y % 100 ≠ 0) ∨ y % 400 = 0) := by
  unfold isLeap
  simp only [Bool.or_eq_true, Bool.and_eq_true, beq_iff_eq, bne_iff_ne, ne_eq]

open Summary in
theorem ordOf_mk (y m d : Nat) :
    ordOf ⟨y, m, d⟩ = marchDays (if m ≤ 2 then (y : Int) - 1 else y) + monthOffset m + d - 719469 :=
  Date.ord_eq _

/-- the two calendars agree on the length of every month: `daysIn` (with `isLeap` for February) against
the differences of the ordinal's month offsets and, from February to March, of its year offsets -/
theorem ordOf_month_succ (y m : Nat) (h1 : 1 ≤ m) (h2 : m < 12) :
    ordOf ⟨y, m + 1, 1⟩ = ordOf ⟨y, m, 1⟩ + daysIn y m := by
  simp only [ordOf_mk, daysIn]
  by_cases hm : m = 2
  · subst hm
    have := Summary.marchDays_step y (isLeap y) rfl
    generalize isLeap y = leap at this ⊢
    cases leap <;> simp [Summary.monthOffset] at this ⊢ <;> omega
  · have := Summary.monthOffset_succ m h2 h1 hm
    have hle : m + 1 ≤ 2 ↔ m ≤ 2 := by omega
    simp only [if_neg hm, hle]
    omega

theorem ord_nextDate (d : Sched.Date) (h : validDate d) : ordOf (nextDate d) = ordOf d + 1 := by
  obtain ⟨y, m, d⟩ := d
  obtain ⟨h1, h2, h3, h4⟩ := h
  simp only at h1 h2 h3 h4
  simp only [nextDate]
  split
  · simp only [ordOf_mk]; omega
  · split
    · rw [ordOf_month_succ _ _ h1 ‹_›]; simp only [ordOf_mk]; omega
    · obtain rfl : m = 12 := by omega
      obtain rfl : d = 31 := by simp [daysIn] at *; omega
      exact (Summary.eoy_succ y).symm

theorem ord_dateOf (start : Sched.Date) (h : validDate start) (n : Nat) :
    ordOf (dateOf start n) = ordOf start + n := by
  induction n with
  | zero => simp [dateOf]
  | succ n ih =>
    show ordOf (nextDate (dateOf start n)) = _
    rw [ord_nextDate _ (dateOf_valid start h n), ih]; omega

/-- the number of days between two simulated days is the difference of their ordinals, and the ordinal
orders the simulated days exactly as the day index does -/
theorem ord_diff (start : Sched.Date) (h : validDate start) (i j : Nat) :
    ordOf (dateOf start j) - ordOf (dateOf start i) = (j : Int) - i := by
  rw [ord_dateOf start h i, ord_dateOf start h j]; omega

theorem ord_lt_iff (start : Sched.Date) (h : validDate start) (i j : Nat) :
    ordOf (dateOf start i) < ordOf (dateOf start j) ↔ i < j := by
  rw [ord_dateOf start h i, ord_dateOf start h j]; omega

theorem ord_injective (start : Sched.Date) (h : validDate start) (i j : Nat)
    (he : ordOf (dateOf start i) = ordOf (dateOf start j)) : i = j := by
  rw [ord_dateOf start h i, ord_dateOf start h j] at he; omega

/-- a simulation continued from day `a` runs on the same calendar (run histories, follow-on runs) -/
theorem dateOf_add (start : Sched.Date) (a b : Nat) : dateOf start (a + b) = dateOf (dateOf start a) b := by
  induction b with
  | zero => rfl
  | succ b ih =>
    show nextDate (dateOf start (a + b)) = nextDate (dateOf (dateOf start a) b)
    rw [ih]

/-- the ordinal order and the calendar order (year, month, day) agree on the simulated days -/
theorem ord_lt_iff_dateLt (start : Sched.Date) (h : validDate start) (i j : Nat) :
    ordOf (dateOf start i) < ordOf (dateOf start j) ↔ dateLt (dateOf start i) (dateOf start j) := by
  rw [ord_lt_iff start h]
  constructor
  · exact dateOf_strictMono start h i j
  · intro hlt
    rcases Nat.lt_trichotomy i j with hij | hij | hij
    · exact hij
    · subst hij; exact absurd hlt (dateLt_irrefl _)
    · exact absurd (dateLt_trans hlt (dateOf_strictMono start h j i hij)) (dateLt_irrefl _)

/-! ### C06's calendar hypothesis discharged inside the integrated simulation -/

/-- on the computed calendar the days of a simulation are `Sched.Chrono` (years never decrease): the
hypothesis of the C06 counting theorems is a theorem of the integrated model, not an assumption -/
theorem chrono_of_calendar (inp : Inputs) (start : Sched.Date) (hv : validDate start)
    (hc : ∀ n, inp.date n = dateOf start n) (N : Nat) (ds : List Sched.DayIn)
    (hd : ds.map (·.date) = (List.range N).map inp.date) : Sched.Chrono ds := by
  unfold Sched.Chrono
  have h1 : (ds.map (·.date)).Pairwise (fun a b => a.y ≤ b.y) := by
    rw [hd, List.pairwise_map]
    refine List.Pairwise.imp ?_ (List.pairwise_lt_range (n := N))
    intro i j hij
    rw [hc i, hc j]
    exact (dateOf_year_mono start hv i j (Nat.le_of_lt hij)).1
  rwa [List.pairwise_map] at h1

/-- **C06 "never more than required" in the integrated simulation**: for every world, program, inputs on
the computed calendar, horizon, and every routine or screening method of the program whose schedule is of the
routine kind, the completed surveys of a site in a year never exceed the required number — under the one
remaining C06 proviso (`CompletesOK`: no carried-over survey completes in a year for which the planner
requires none), stated on the very history the simulation produced -/
theorem sim_done_le_required (w : World) (prog : Program) (inp : Inputs) (start : Sched.Date)
    (hv : validDate start) (hcal : ∀ n, inp.date n = dateOf start n) (m : Nat) (c : MethodCfg)
    (hc : prog[m]? = some c) (hr : c.role ≠ .followUp) (hnd : (schedCfg c).sites.Nodup)
    (hk : (schedCfg c).kind = .routine) (N : Nat) :
    ∃ ds : List Sched.DayIn, ds.map (·.date) = (List.range N).map inp.date ∧
      ((simState w prog inp N).ms.getD m {}).sched = Sched.runDays (schedCfg c) ds ∧
      (Sched.CompletesOK (schedCfg c) Sched.init ds → ∀ i y,
        Sched.done ((((simState w prog inp N).ms.getD m {}).sched).pl i) y ≤ Sched.required ((schedCfg c).P i) y) := by
  obtain ⟨ds, hd, hs⟩ := sim_sched_runDays w prog inp m c hc hr N
  refine ⟨ds, hd, hs, ?_⟩
  intro hok i y
  rw [hs]
  exact Sched.done_le_required_partial (schedCfg c) hnd hk ds
    (chrono_of_calendar inp start hv hcal N ds hd) hok i y

/-- on the computed calendar, consecutive simulated days that lie in one calendar year have strictly
increasing (month, day): the hypothesis `(yr.map md).Pairwise mdLt` of C06's "all of them when feasible"
(`all_done_when_feasible`, `C06_feasible_statement`) holds for every year block of a simulation -/
theorem md_pairwise_of_calendar (start : Sched.Date) (hv : validDate start) (a : Nat) (yr : List Sched.DayIn)
    (hd : ∀ i (hi : i < yr.length), yr[i].date = dateOf start (a + i))
    (y : Nat) (hyr : ∀ d ∈ yr, d.date.y = y) : (yr.map Sched.md).Pairwise Sched.mdLt := by
  rw [List.pairwise_map, List.pairwise_iff_getElem]
  intro i j hi hj hij
  have h1 := hyr yr[i] (List.getElem_mem hi)
  have h2 := hyr yr[j] (List.getElem_mem hj)
  have hlt := dateOf_strictMono start hv (a + i) (a + j) (by omega)
  rw [← hd i hi, ← hd j hj] at hlt
  unfold dateLt at hlt
  unfold Sched.mdLt Sched.md
  simp only
  omega

/-- the history `sim_sched_runDays` / `sim_done_le_required` produce carries the computed calendar day by day,
and so does every suffix of it (`yr = ds.drop a`, the shape `pre ++ yr` of `all_done_when_feasible`) -/
theorem sim_history_dates (inp : Inputs) (start : Sched.Date) (hcal : ∀ n, inp.date n = dateOf start n)
    (N : Nat) (ds : List Sched.DayIn) (hd : ds.map (·.date) = (List.range N).map inp.date) :
    ∀ i (hi : i < ds.length), ds[i].date = dateOf start i := by
  intro i hi
  have := List.getElem_of_eq hd (by simpa using hi)
  rwa [List.getElem_map, List.getElem_map, List.getElem_range, hcal] at this

theorem sim_history_drop_dates (inp : Inputs) (start : Sched.Date) (hcal : ∀ n, inp.date n = dateOf start n)
    (N : Nat) (ds : List Sched.DayIn) (hd : ds.map (·.date) = (List.range N).map inp.date) (a : Nat) :
    ∀ i (hi : i < (ds.drop a).length), (ds.drop a)[i].date = dateOf start (a + i) := by
  intro i hi
  have hi' : a + i < ds.length := by
    rw [List.length_drop] at hi; omega
  rw [List.getElem_drop]
  exact sim_history_dates inp start hcal N ds hd (a + i) hi'

/-- **C06 "all of them when feasible" in the integrated simulation**: if year `y` is the block of simulated
days from index `a` to the end of the horizon, every day so far was feasible (crews suffice, weather
permits) and the planner's plan dates are simulated days of that block, then the mobile method has completed
exactly the required number of surveys of site `i` in year `y` — the calendar side conditions (`Pairwise mdLt`)
are discharged by the computed calendar -/
theorem sim_all_done_when_feasible (w : World) (prog : Program) (inp : Inputs) (start : Sched.Date)
    (hv : validDate start) (hcal : ∀ n, inp.date n = dateOf start n) (m : Nat) (c : MethodCfg)
    (hc : prog[m]? = some c) (hr : c.role ≠ .followUp) (hnd : (schedCfg c).sites.Nodup)
    (hk : (schedCfg c).kind = .routine) (N : Nat) :
    ∃ ds : List Sched.DayIn, ds.map (·.date) = (List.range N).map inp.date ∧
      ∀ (a i y : Nat), i ∈ (schedCfg c).sites →
        (y ∈ ((schedCfg c).P i).depYears ∧ y ∈ ((schedCfg c).P i).simYears) →
        (∀ d ∈ ds, Sched.Feasible (schedCfg c) d) →
        (∀ d ∈ ds.take a, d.date.y ≠ y) → (∀ d ∈ ds.drop a, d.date.y = y) →
        ((schedCfg c).P i).plan.length = ((schedCfg c).P i).rs → ((schedCfg c).P i).plan.Pairwise Sched.mdLt →
        (∀ pd ∈ ((schedCfg c).P i).plan, pd ∈ (ds.drop a).map Sched.md ∧ pd.1 ∈ ((schedCfg c).P i).months) →
        Sched.done ((((simState w prog inp N).ms.getD m {}).sched).pl i) y = Sched.required ((schedCfg c).P i) y := by
  obtain ⟨ds, hd, hs⟩ := sim_sched_runDays w prog inp m c hc hr N
  refine ⟨ds, hd, ?_⟩
  intro a i y his hy hf hpre hyr hlen hplan hin
  rw [hs, ← List.take_append_drop a ds]
  refine Sched.all_done_when_feasible (schedCfg c) hnd hk i his y hy (ds.take a) (ds.drop a) ?_ hpre hyr ?_ hlen hplan hin
  · intro d hd'
    rw [List.take_append_drop] at hd'
    exact hf d hd'
  · exact md_pairwise_of_calendar start hv a (ds.drop a)
      (sim_history_drop_dates inp start hcal N ds hd a) y hyr

/-- **C06 "never surveys a site where it is not deployed" in the integrated simulation**: a site whose
planner guard is never true (method not deployed there, no survey frequency, no deployment year or month)
has no completed survey counted in any year, at every horizon, for every world, program and inputs
(mobile and stationary methods alike; no calendar hypothesis) -/
theorem sim_not_deployed_never_surveyed (w : World) (prog : Program) (inp : Inputs) (m : Nat) (c : MethodCfg)
    (hc : prog[m]? = some c) (hr : c.role ≠ .followUp) (hnd : (schedCfg c).sites.Nodup) (i : Nat)
    (hg : ∀ dt ps, Sched.guardK (schedCfg c).kind ((schedCfg c).P i) dt ps = false) (N : Nat) :
    ∀ y, Sched.done ((((simState w prog inp N).ms.getD m {}).sched).pl i) y = 0 := by
  obtain ⟨ds, _, hs⟩ := sim_sched_runDays w prog inp m c hc hr N
  rw [hs]
  exact (Sched.not_deployed_never_planned (schedCfg c) hnd i hg ds ⟨inp.date N, fun _ => .untouched⟩).2

/-- one simulated day is one `Sched.scheduleDay` on the method's schedule, dated by the calendar input -/
theorem sim_sched_step (w : World) (prog : Program) (inp : Inputs) (m : Nat) (c : MethodCfg)
    (hc : prog[m]? = some c) (hr : c.role ≠ .followUp) (n : Nat) :
    ∃ out, ((simState w prog inp (n + 1)).ms.getD m {}).sched =
      Sched.scheduleDay (schedCfg c) { date := inp.date n, out := out } ((simState w prog inp n).ms.getD m {}).sched :=
  day_sched w prog inp m c hc hr n _ (ms_length w prog inp n)

/-- **C06 stationary clause in the integrated simulation**: on every simulated day a stationary method plans
each site holding a request exactly once, every deployed site holds one on every day of its deployment
calendar, and a planned site is counted (once, in the day's year) exactly when the day is workable for it -/
theorem sim_stationary_day (w : World) (prog : Program) (inp : Inputs) (m : Nat) (c : MethodCfg)
    (hc : prog[m]? = some c) (hr : c.role ≠ .followUp) (hnd : (schedCfg c).sites.Nodup)
    (hk : (schedCfg c).kind = .stationary) (n : Nat) :
    ∃ (ds : List Sched.DayIn) (d : Sched.DayIn), d.date = inp.date n ∧
      ((simState w prog inp n).ms.getD m {}).sched = Sched.runDays (schedCfg c) ds ∧
      ((simState w prog inp (n + 1)).ms.getD m {}).sched = Sched.scheduleDay (schedCfg c) d (Sched.runDays (schedCfg c) ds) ∧
      (Sched.planOn (schedCfg c) d (Sched.runDays (schedCfg c) ds)).Nodup ∧
      (∀ i ∈ (schedCfg c).sites, d.date.y ∈ ((schedCfg c).P i).depYears → d.date.m ∈ ((schedCfg c).P i).months →
        0 < Sched.required ((schedCfg c).P i) d.date.y → i ∈ Sched.planOn (schedCfg c) d (Sched.runDays (schedCfg c) ds)) ∧
      (∀ i y, Sched.done ((((simState w prog inp (n + 1)).ms.getD m {}).sched).pl i) y =
        Sched.done ((((simState w prog inp n).ms.getD m {}).sched).pl i) y +
          (if Sched.completesAt (schedCfg c) d (Sched.runDays (schedCfg c) ds) i = true ∧ y = d.date.y then 1 else 0)) := by
  obtain ⟨ds, _, hs⟩ := sim_sched_runDays w prog inp m c hc hr n
  obtain ⟨out, hstep⟩ := sim_sched_step w prog inp m c hc hr n
  have hst := Sched.C06_stationary (schedCfg c) ds { date := inp.date n, out := out } hnd hk
  refine ⟨ds, { date := inp.date n, out := out }, rfl, hs, by rw [hstep, hs], hst.1, hst.2.1, ?_⟩
  intro i y
  rw [hstep, hs]
  exact hst.2.2.2 i y

/-- non-vacuity: the mobile OGI method of the example program of `Props/Sim.lean` meets the hypotheses of
`sim_done_le_required` (mobile, not a follow-up method, distinct sites, a valid start date) -/
example : (schedCfg exOGI).kind = .routine ∧ (schedCfg exOGI).sites.Nodup ∧ exOGI.role ≠ .followUp ∧
    validDate ⟨2023, 1, 1⟩ := by
  refine ⟨by decide +kernel, by decide +kernel, by decide +kernel, by unfold validDate; decide +kernel⟩

/-- 1970-01-01 is day 0; 2024-02-29 exists and is followed by March 1 -/
example : ordOf ⟨1970, 1, 1⟩ = 0 ∧ ordOf ⟨2024, 3, 1⟩ = ordOf ⟨2024, 2, 28⟩ + 2 ∧
    ordOf ⟨2023, 3, 1⟩ = ordOf ⟨2023, 2, 28⟩ + 1 := by decide +kernel

end LdarModel.Sim
