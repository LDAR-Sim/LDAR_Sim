import LdarModel.Lemmas.Cache
import LdarModel.Generated.Cache
/-
C17 — cached scenarios are reused only while every defining input is unchanged.

Model: `Model/Cache.lean` (`plan`, `exec`, `execAll`); the table `Generated.Cache.tbl` (which inputs
are hashed / compared, which files must exist for reuse, the order of the file effects) is
re-extracted from the source on every check run.  A history is any list of: edit of an input, run
with `n` simulations, run interrupted before its `k`-th file effect, run interrupted inside the
`pickle.dump` of its `k`-th file effect (torn file), deletion of a generator file or of one
emission file by the user.  The simulated period is part of the virtual-world dictionary
(`Tbl.periodOf`), the daily seed series (`preseed.p`) records the period it covers.
-/
namespace LdarModel.Cache

/-- the next uninterrupted run with `n` simulations, if its initialisation completes, has an
infrastructure generated from the *current* inputs in memory, hands the simulations a daily seed
series for the *current* period, and every simulation `i < n` loads a scenario generated by exactly
that infrastructure generation - or, only when the user deleted emission files (`w`), finds its
emission file missing (a loud `FileNotFoundError`, never another scenario) -/
def UsesCurrent (t : Tbl) (s : St) (n : Nat) (w : Bool) : Prop :=
  ∀ g, (nextPlan t s n).outcome = some g →
    g.vv = s.vv ∧
    (applyAll (nextPlan t s n).steps s.disk).ts = .ok (t.periodOf s.vv.vw) ∧
    (∀ i, i < n →
      (applyAll (nextPlan t s n).steps s.disk).emis i = .ok g ∨
      (w = true ∧ (applyAll (nextPlan t s n).steps s.disk).emis i = .absent)) ∧
    -- every simulation has its own preseed, and no two of them are the same draw of the random stream
    ∃ l, (applyAll (nextPlan t s n).steps s.disk).seeds = .ok l ∧ n ≤ l.length ∧ l.Nodup

/-- the property at full strength: after ANY history -/
def C17_statement (t : Tbl) : Prop :=
  ∀ (h : List Op) (n : Nat), UsesCurrent t (execAll t St.init h) n (h.any Op.isDelEmis)

/-- progress: after any history without a torn write (deletions and interruptions are allowed) the
next uninterrupted run completes, so `C17_statement` is not vacuous there -/
def C17_progress_statement (t : Tbl) : Prop :=
  ∀ (h : List Op) (n : Nat), (∀ op ∈ h, op.isTear = false) →
    (nextPlan t (execAll t St.init h) n).outcome ≠ none

theorem C17_of_table (t : Tbl) (ok : TblOK t) : C17_statement t := by
  intro h n g hg
  obtain ⟨⟨l, hl, hln⟩, _, _, ⟨c, _, hnc, he⟩, hts, hcur⟩ :=
    (plan_spec ok _ _ n (inv_history ok h)).2 g hg
  have hf : SeedsFresh (exec t (execAll t St.init h) (.run n)) :=
    seedsFresh_exec ok _ (seedsFresh_history ok h)
  exact ⟨hcur, hts, fun i hin => he i (by omega), l, hl, hln, (hf l hl).1⟩

/-- "adds NEW ones": whatever the history, when the next run has to extend the preseed file (the
simulation count was raised) the stored preseeds stay, untouched, as a prefix, and every added
preseed is a draw of this run that is not among the stored ones; the extended list has no repeated
draw.  (The preseeds are an input stream of fresh draws; `Draw` names a draw by the run that made it
and its position among that run's draws.) -/
theorem raising_count_adds_new_preseeds (t : Tbl) (ok : TblOK t) (h : List Op) (n : Nat) (l : List Draw)
    (hl : (execAll t St.init h).disk.seeds = .ok l) (hn : l.length < n) :
    ∃ add, seedsStage t (execAll t St.init h).gid n (execAll t St.init h).disk
        = some ([.wrSeeds (l ++ add)], false)
      ∧ add.length = n - l.length ∧ (l ++ add).Nodup
      ∧ ∀ x ∈ add, x ∉ l ∧ x.1 = (execAll t St.init h).gid := by
  have ⟨nd, lt⟩ := seedsFresh_history ok h l hl
  have ⟨a, b⟩ := newDraws_append ok.seedFresh (n - l.length) nd lt
  exact ⟨_, by simp [seedsStage, hl, hn], newDraws_length _ _ _ _, a, b⟩

theorem C17_progress_of_table (t : Tbl) (ok : TblOK t) : C17_progress_statement t := by
  intro h n ht
  exact noTorn_progress ok _ _ n (noTorn_history t h ht)

/-! ### obligations on the extracted table -/

open LdarModel.Generated.Cache in
/-- defining ⊆ hashed: every defining input has its hash stored in the hash file -/
theorem table_defining_subset_hashed :
    Input.all.all (fun i => tbl.hashedFresh.any (fun p => p.2 == i)) = true
    ∧ tbl.hashedRegen = tbl.hashedFresh ∧ (tbl.hashedFresh.map (·.1)).Nodup := by
  decide +kernel

open LdarModel.Generated.Cache in
/-- hashed = compared: exactly the stored (key, input) pairs are compared on reuse -/
theorem table_hashed_eq_compared :
    tbl.hashedFresh.all (fun p => tbl.compared.contains p) = true
    ∧ tbl.compared.all (fun p => tbl.hashedFresh.contains p) = true := by
  decide +kernel

open LdarModel.Generated.Cache in
/-- the count file is required for reuse, invalidated before a regeneration overwrites anything and
written after the last emission file, in the regenerate-all and in the add-simulations branch; the
seed files are written where the model writes them -/
theorem table_write_order :
    tbl.required.contains .count = true
    ∧ tbl.freshOps = safeIOps ∧ tbl.regenOps = safeIOps
    ∧ tbl.emisRegen = safePhases ∧ tbl.emisExtend = safePhases
    ∧ tbl.seedWrites = [.seeds, .seeds] ∧ tbl.tsWrites = [.ts]
    ∧ tbl.required.contains .hashes = true ∧ tbl.required.contains .infra = true
    ∧ tbl.tsExact = true := by
  decide +kernel

open LdarModel.Generated.Cache in
/-- nothing survives between runs inside one interpreter, and what is pickled comes back whole: no
module or class level mutable container, memoising decorator, mutable default or copy hook in the
initialisation modules / pickled classes; every attribute a pickled class assigns is restored by its
`_reconstruct`, from the position it has in the `__reduce__` tuple -/
theorem table_no_hidden_state :
    hiddenState = [] ∧ pickleDropped = [] ∧ pickleMisordered = [] := by
  decide +kernel

open LdarModel.Generated.Cache in
/-- the hashed view determines every defining input: `hash_file` feeds the whole file to the hasher
and no key is removed from the virtual-world / program dictionaries between parameter intake and
`hash_dict` (so every leaf the user gave and every byte of every defining file is inside the view) -/
theorem table_hashed_view_complete :
    tbl.hashWholeFile = true ∧ tbl.vwKeysRemoved = false ∧ tbl.progKeysRemoved = false
    ∧ removedKeys = [] := by
  decide +kernel

open LdarModel.Generated.Cache in
/-- both generation loops of `initialize_emissions` - regenerate everything, add simulations - hand
`Infrastructure.generate_emissions` the same keyword arguments (an argument left out of one of them
falls back to the callee's default for the scenarios of that loop only) -/
theorem table_generation_calls_agree :
    genArgsExtend = genArgsRegen ∧ tbl.extendSameArgs = true
    ∧ genArgsRegen.any (fun a => a.startsWith "pre_simulation_emissions=") = true :=
  ⟨rfl, rfl, by decide +kernel⟩

open LdarModel.Generated.Cache in
theorem table_ok : TblOK tbl :=
  have ⟨hdef, hsame, hnodup⟩ := table_defining_subset_hashed
  have ⟨hhc, hch⟩ := table_hashed_eq_compared
  have ⟨hcount, hfresh, hregen, heregen, heextend, _, _, hhashes, hinfra, hts⟩ := table_write_order
  { nodup := hnodup
    sameHashed := hsame
    defining := fun i =>
      have ⟨p, hp, e⟩ := List.any_eq_true.mp (List.all_eq_true.mp hdef i (by cases i <;> decide))
      ⟨p.1, eq_of_beq e ▸ hp⟩
    hashedCompared := fun p hp => List.contains_iff_mem.mp (List.all_eq_true.mp hhc p hp)
    comparedHashed := fun p hp => List.contains_iff_mem.mp (List.all_eq_true.mp hch p hp)
    countRequired := List.contains_iff_mem.mp hcount
    hashesRequired := List.contains_iff_mem.mp hhashes
    infraRequired := List.contains_iff_mem.mp hinfra
    tsExact := hts
    extendSame := table_generation_calls_agree.2.1
    seedFresh := rfl
    viewInj := fun k a b h => by cases k <;> simpa [Tbl.view, table_hashed_view_complete] using h
    freshOps := hfresh
    regenOps := hregen
    emisRegen := heregen
    emisExtend := heextend }

/-- completed runs after any two histories whose defining inputs differ hold different generations
and load no scenario in common: by `C17_of_table` every scenario a run loads carries the generation
the run holds, and that generation carries the run's inputs -/
theorem runs_share_no_scenario (t : Tbl) (ok : TblOK t) (ha hb : List Op) (n1 n2 : Nat) (g1 g2 : Gen)
    (r1 : (nextPlan t (execAll t St.init ha) n1).outcome = some g1)
    (r2 : (nextPlan t (execAll t St.init hb) n2).outcome = some g2)
    (hne : (execAll t St.init ha).vv ≠ (execAll t St.init hb).vv) :
    g1 ≠ g2 ∧
    ∀ i j x, i < n1 → j < n2 →
      (applyAll (nextPlan t (execAll t St.init ha) n1).steps (execAll t St.init ha).disk).emis i = .ok x →
      (applyAll (nextPlan t (execAll t St.init hb) n2).steps (execAll t St.init hb).disk).emis j = .ok x →
      False := by
  obtain ⟨c1, _, e1, _⟩ := C17_of_table t ok ha n1 g1 r1
  obtain ⟨c2, _, e2, _⟩ := C17_of_table t ok hb n2 g2 r2
  have hg : g1 ≠ g2 := fun e => hne (c1.symm.trans (e ▸ c2))
  refine ⟨hg, fun i j x hi hj a b => ?_⟩
  -- a file that is read is not missing, so `x` is the generation of either run
  rcases e1 i hi with p | ⟨_, p⟩ <;> rw [a] at p <;> cases p
  rcases e2 j hj with q | ⟨_, q⟩ <;> rw [b] at q <;> cases q
  exact hg rfl

/-- with the hash injective on the hashed view and the view determining the inputs (`TblOK.viewInj`):
two completed runs anywhere in a history whose defining inputs differ - in any leaf of a parameter
dictionary or any byte of a defining file, i.e. in any content number - hold different
infrastructure generations and never load the same scenario for any pair of simulations -/
theorem different_inputs_share_no_scenario (t : Tbl) (ok : TblOK t) (h1 h2 : List Op) (n1 n2 : Nat)
    (g1 g2 : Gen)
    (r1 : (nextPlan t (execAll t St.init h1) n1).outcome = some g1)
    (r2 : (nextPlan t (execAll t St.init (h1 ++ h2)) n2).outcome = some g2)
    (hne : (execAll t St.init h1).vv ≠ (execAll t St.init (h1 ++ h2)).vv) :
    g1 ≠ g2 ∧
    ∀ i j x, i < n1 → j < n2 →
      (applyAll (nextPlan t (execAll t St.init h1) n1).steps (execAll t St.init h1).disk).emis i = .ok x →
      (applyAll (nextPlan t (execAll t St.init (h1 ++ h2)) n2).steps
        (execAll t St.init (h1 ++ h2)).disk).emis j = .ok x → False :=
  runs_share_no_scenario t ok h1 (h1 ++ h2) n1 n2 g1 g2 r1 r2 hne

/-- what an earlier part of the history left in the folder never leaks into a run made under other
inputs (A → B → A): a completed run that finds a stored infrastructure of another version vector
holds an infrastructure generated by this very run -/
theorem stale_infrastructure_never_reused (t : Tbl) (ok : TblOK t) (h : List Op) (n : Nat) (g g' : Gen)
    (hg : (nextPlan t (execAll t St.init h) n).outcome = some g)
    (hs : (execAll t St.init h).disk.infra = .ok g')
    (hne : g'.vv ≠ (execAll t St.init h).vv) :
    g = ⟨(execAll t St.init h).vv, (execAll t St.init h).gid⟩ := by
  have hcur := (C17_of_table t ok h n g hg).1
  rcases mem_fresh_or_loaded ok hg with e | e
  · exact e
  · rw [hs] at e
    cases e
    exact absurd hcur hne

theorem C17 : C17_statement Generated.Cache.tbl := C17_of_table _ table_ok

theorem C17_progress : C17_progress_statement Generated.Cache.tbl := C17_progress_of_table _ table_ok

/-- exactly which folders make the next run fail loudly (for ANY folder, reachable or not): a torn
seed file, a torn daily seed series, or - when the seed file exists and all required files exist, so
that nothing is forced - a torn hash file, or matching hashes with a torn infrastructure or count
file.  Deleted files never do: they make the run regenerate. -/
theorem C17_fails_exactly (vv : VV) (gid n : Nat) (d : Disk) :
    (plan Generated.Cache.tbl vv gid n d).outcome = none ↔
      d.seeds = .torn ∨ d.ts = .torn ∨
      (d.seeds ≠ .absent ∧ Generated.Cache.tbl.required.all d.present = true ∧
        (d.hashes = .torn ∨ ∃ st, d.hashes = .ok st ∧ hashesMatch Generated.Cache.tbl st vv = true ∧
          (d.infra = .torn ∨ d.count = .torn))) :=
  plan_fails_iff table_ok vv gid n d

/-- every prefix of every run, and every torn write, keeps the folder invariant -/
theorem history_invariant (h : List Op) :
    Inv Generated.Cache.tbl (h.any Op.isDelEmis)
      (execAll Generated.Cache.tbl St.init h).disk :=
  inv_history table_ok h

private theorem execAll_append (t : Tbl) (s0 : St) (l1 l2 : List Op) :
    execAll t s0 (l1 ++ l2) = execAll t (execAll t s0 l1) l2 := by
  simp [execAll, List.foldl_append]

private theorem execAll_one (t : Tbl) (s0 : St) (op : Op) : execAll t s0 [op] = exec t s0 op := rfl

/-- raising the number of simulations (`n0 ≤ n1`, no edit in between) after a completed run, with
the raising run possibly interrupted first (`mid` = nothing, `crash n1 k` for any `k`, or `tear n1 k`
where the torn write is an emission file): the
interrupted run leaves the scenarios `< n0` as they were, the next run completes with the SAME
infrastructure generation, none of its file effects touches the hash file, the infrastructure file
or an emission file `< n0`, and all `n1` scenarios come from that one generation.  (Histories
without user deletion of emission files.) -/
theorem extend_keeps (t : Tbl) (ok : TblOK t) (h : List Op) (n0 n1 : Nat) (hle : n0 ≤ n1)
    (hd : h.any Op.isDelEmis = false) (mid : List Op)
    (hmid : mid = [] ∨ (∃ k, mid = [.crash n1 k]) ∨
      (∃ k i g, mid = [.tear n1 k] ∧
        (nextPlan t (execAll t St.init (h ++ [.run n0])) n1).steps[k]? = some (.wrEmis i g)))
    (g0 : Gen) (hc : (nextPlan t (execAll t St.init h) n0).outcome = some g0) :
    (∀ i, i < n0 → (execAll t St.init (h ++ [.run n0] ++ mid)).disk.emis i = .ok g0
        ∧ (execAll t St.init (h ++ [.run n0])).disk.emis i = .ok g0)
    ∧ (nextPlan t (execAll t St.init (h ++ [.run n0] ++ mid)) n1).outcome = some g0
    ∧ (∀ s ∈ (nextPlan t (execAll t St.init (h ++ [.run n0] ++ mid)) n1).steps,
        s.touchesOld n0 = false)
    ∧ (∀ i, i < n1 →
        (execAll t St.init (h ++ [.run n0] ++ mid ++ [.run n1])).disk.emis i = .ok g0) := by
  have hi : Inv t false (execAll t St.init h).disk := hd ▸ inv_history ok h
  have hv := (plan_spec ok _ _ n0 hi).2 g0 hc
  simp only [execAll_append, execAll_one] at hmid ⊢
  generalize execAll t St.init h = s at *
  have hv1 : Valid t false s.vv g0 n0 (exec t s (.run n0)).disk := hv
  have hi1 : Inv t false (exec t s (.run n0)).disk := inv_exec ok _ hi nofun
  obtain ⟨s2, hs2, hvv, hv2, hi2⟩ : ∃ s2 : St, execAll t (exec t s (.run n0)) mid = s2 ∧ s2.vv = s.vv ∧
      Valid t false s.vv g0 n0 s2.disk ∧ Inv t false s2.disk := by
    rcases hmid with rfl | ⟨k, rfl⟩ | ⟨k, i, g, rfl, hk⟩
    · exact ⟨_, rfl, rfl, hv1, hi1⟩
    · exact ⟨_, rfl, rfl, (valid_interrupted ok n1 k hi1 hv1).1, inv_exec ok (.crash n1 k) hi1 nofun⟩
    · exact ⟨_, rfl, rfl, (valid_interrupted ok n1 k hi1 hv1).2 i g hk,
        inv_exec ok (.tear n1 k) hi1 nofun⟩
  rw [hs2]
  obtain ⟨p1, p2, _⟩ := plan_of_fields ok n1 s2.gid (fields_of_valid hv2)
  have hv3 := (plan_spec ok s.vv s2.gid n1 hi2).2 g0 p1
  refine ⟨fun i hin => ⟨hv2.emis_ok hin, hv1.emis_ok hin⟩, ?_, ?_, fun i hin => ?_⟩
  · rw [nextPlan, hvv]; exact p1
  · rw [nextPlan, hvv]; exact p2
  · rw [exec, hvv]; exact hv3.emis_ok hin

/-! ### the unrepaired code (finding F11 and the add-simulations order): why each obligation is
needed.  Each table below differs from the extracted one exactly in the part named. -/

/-- the table of the unchanged tree w.r.t. hashing: emission-rate and repair-delay files are not
hashed -/
def tblUnhashed : Tbl :=
  { Generated.Cache.tbl with
    hashedFresh := Generated.Cache.tbl.hashedFresh.filter (fun p => p.2 ≠ .emisRate ∧ p.2 ≠ .repairDelay)
    hashedRegen := Generated.Cache.tbl.hashedRegen.filter (fun p => p.2 ≠ .emisRate ∧ p.2 ≠ .repairDelay)
    compared := Generated.Cache.tbl.compared.filter (fun p => p.2 ≠ .emisRate ∧ p.2 ≠ .repairDelay) }

/-- the unchanged tree w.r.t. interruption: count file neither required nor invalidated -/
def tblNoInvalidate : Tbl :=
  { Generated.Cache.tbl with
    required := [.hashes, .infra], freshOps := [.wrHashes, .wrInfra], regenOps := [.wrHashes, .wrInfra] }

/-- the unchanged tree w.r.t. adding simulations: count file written before the added files -/
def tblCountFirst : Tbl :=
  { Generated.Cache.tbl with emisExtend := [.count, .emisLoop] }

/-- `hash_file` reads one bounded block only: contents 0 and 1 of the sites file differ behind it -/
def tblPartialHash : Tbl := { Generated.Cache.tbl with hashWholeFile := false }

/-- a key is popped from the virtual-world dictionary before it is hashed: contents 0 and 1 of the
dictionary differ in that key only -/
def tblPoppedKey : Tbl := { Generated.Cache.tbl with vwKeysRemoved := true }

/-- the add-simulations loop calls `generate_emissions` without an argument the regenerate-all loop
passes (the callee's default applies to the added scenarios) -/
def tblExtendOtherArgs : Tbl := { Generated.Cache.tbl with extendSameArgs := false }

/-- `gen_seed_emis` draws from a generator rebuilt with a fixed seed on every call -/
def tblRestartedStream : Tbl := { Generated.Cache.tbl with seedRestart := true }

/-- the unchanged tree w.r.t. the daily seed series: reused whenever its length matches -/
def tblStaleSeries : Tbl := { Generated.Cache.tbl with tsExact := false }

/-! `UsesCurrent` is decidable: its quantifiers range over the outcome of the next plan, the simulations
`< n` and the content of the seed file.  A table fails C17 by evaluation after a history. -/

instance FileSt.decidableExistsOk {α} (x : FileSt α) (q : α → Prop) [DecidablePred q] :
    Decidable (∃ a, x = .ok a ∧ q a) :=
  match x with
  | .ok a => decidable_of_iff (q a) ⟨fun h => ⟨a, rfl, h⟩, fun ⟨_, e, h⟩ => by cases e; exact h⟩
  | .absent => isFalse fun ⟨_, e, _⟩ => nomatch e
  | .torn => isFalse fun ⟨_, e, _⟩ => nomatch e

instance (t : Tbl) (s : St) (n : Nat) (w : Bool) : Decidable (UsesCurrent t s n w) := by
  unfold UsesCurrent
  exact decidable_of_iff (∀ g ∈ (nextPlan t s n).outcome, _) Iff.rfl

abbrev FailsAfter (t : Tbl) (h : List Op) (n : Nat) : Prop :=
  ¬ UsesCurrent t (execAll t St.init h) n (h.any Op.isDelEmis)

theorem FailsAfter.not_C17 {t : Tbl} {h : List Op} {n : Nat} (f : FailsAfter t h n) :
    ¬ C17_statement t :=
  fun c => f (c h n)

/-- one failing history for each table above, in one statement so that the comparisons of the
dictionary keys, which all the tables share, are evaluated once -/
theorem failing_histories :
    FailsAfter tblUnhashed [.run 1, .edit .emisRate 1] 1
    ∧ FailsAfter tblNoInvalidate [.run 2, .edit .site 1, .crash 2 3] 2
    ∧ FailsAfter tblCountFirst [.run 3, .edit .site 1, .run 2, .crash 3 1] 3
    ∧ FailsAfter tblPartialHash [.run 1, .edit .site 1] 1
    ∧ FailsAfter tblPoppedKey [.run 1, .edit .vw 1] 1
    ∧ FailsAfter tblExtendOtherArgs [.run 2] 3
    ∧ FailsAfter tblRestartedStream [.run 2] 4
    ∧ FailsAfter tblStaleSeries [.run 1, .edit .vw 4] 1 := by
  decide +kernel

/-- F11a: run, edit the emission-rate file, run again: the old scenarios are reused -/
theorem C17_counterexample_unhashed : ¬ C17_statement tblUnhashed :=
  failing_histories.1.not_C17

/-- F11b: run 2, edit the site file, regeneration interrupted before the second emission file
(file effect 3: hashes, infrastructure, emissions 0 are written): the next run finds matching
hashes and the old count, and simulation 1 uses the old scenario with the new infrastructure -/
theorem C17_counterexample_crash : ¬ C17_statement tblNoInvalidate :=
  failing_histories.2.1.not_C17

/-- count written first when simulations are added: run 3, edit, run 2 (emission file 2 is now
stale), run 3 interrupted after the count was rewritten: the next run uses the stale file -/
theorem C17_counterexample_count_first : ¬ C17_statement tblCountFirst :=
  failing_histories.2.2.1.not_C17

theorem C17_counterexample_partial_hash : ¬ C17_statement tblPartialHash :=
  failing_histories.2.2.2.1.not_C17

theorem C17_counterexample_popped_key : ¬ C17_statement tblPoppedKey :=
  failing_histories.2.2.2.2.1.not_C17

/-- run 2, then run 3 with nothing changed, no interruption, matching hashes: scenario 2 is generated
under another value of a virtual-world parameter than scenarios 0 and 1 -/
theorem C17_counterexample_extend_other_args : ¬ C17_statement tblExtendOtherArgs :=
  failing_histories.2.2.2.2.2.1.not_C17

/-- run 2, then run 4 with nothing changed: the two added preseeds are the draws of simulations 0
and 1 again, so simulations 2 and 3 are copies of 0 and 1 -/
theorem C17_counterexample_restarted_stream : ¬ C17_statement tblRestartedStream :=
  failing_histories.2.2.2.2.2.2.1.not_C17

/-- shifting the simulated period at equal length (virtual-world content 4 instead of 0): all
scenarios are regenerated, but the completed run hands the simulations the series of the OLD period
(in the code: `KeyError` at the daily `np.random.seed` lookup until `preseed.p` is deleted) -/
theorem C17_counterexample_stale_series : ¬ C17_statement tblStaleSeries :=
  failing_histories.2.2.2.2.2.2.2.not_C17

/-- boundary of the statement (NOT a history op): nothing in the folder identifies an emission
file, so when the USER copies an emission file of an older generation back, the next run completes
and simulation 0 silently loads it.  `Op.delEmis` (deleting one) is inside the statement: it can
only lead to a missing file. -/
theorem restored_emission_file_is_not_detected :
    let t := Generated.Cache.tbl
    let s := (execAll t St.init [.run 1, .edit .site 1, .run 1]).restoreEmis 0 ⟨VV.zero, 0⟩
    (nextPlan t s 1).outcome = some ⟨VV.zero.set .site 1, 1⟩ ∧
    (applyAll (nextPlan t s 1).steps s.disk).emis 0 = .ok ⟨VV.zero, 0⟩ := by
  decide +kernel

/-! ### non-vacuity -/

/-- the hypothesis of `C17` is met by completed runs that regenerate, reuse and extend -/
example :
    let t := Generated.Cache.tbl
    (nextPlan t (execAll t St.init []) 2).outcome = some ⟨VV.zero, 0⟩
    ∧ (nextPlan t (execAll t St.init [.run 2]) 2).outcome = some ⟨VV.zero, 0⟩
    ∧ (nextPlan t (execAll t St.init [.run 2]) 2).steps = []
    ∧ (nextPlan t (execAll t St.init [.run 2]) 3).steps
        = [.wrSeeds [(0, 0), (0, 1), (1, 0)], .wrEmis 2 ⟨VV.zero, 0⟩, .wrCount 3]
    ∧ (nextPlan t (execAll t St.init [.run 2, .edit .emisRate 1]) 2).outcome
        = some ⟨VV.zero.set .emisRate 1, 1⟩
    ∧ (nextPlan t (execAll t St.init [.run 2, .edit .site 1, .crash 2 4]) 2).outcome
        = some ⟨VV.zero.set .site 1, 2⟩
    ∧ (nextPlan t (execAll t St.init [.run 2, .tear 3 2]) 3).outcome = none
    -- a deleted emission file below the count stays missing (reuse), above it is regenerated
    ∧ (execAll t St.init [.run 2, .delEmis 1, .run 2]).disk.emis 1 = .absent
    ∧ (execAll t St.init [.run 1, .delEmis 1, .run 2]).disk.emis 1 = .ok ⟨VV.zero, 0⟩
    -- a shifted period: everything regenerated, series rewritten for the new period
    ∧ (nextPlan t (execAll t St.init [.run 1, .edit .vw 4]) 1).steps
        = [.rm .count, .wrHashes (storeOf t.hashedFresh (VV.zero.set .vw 4)),
           .wrInfra ⟨VV.zero.set .vw 4, 1⟩, .wrEmis 0 ⟨VV.zero.set .vw 4, 1⟩, .wrCount 1, .wrTs (2, 25)]
    -- deleted files never make a run fail
    ∧ (nextPlan t (execAll t St.init [.run 2, .del .count, .del .seeds, .crash 2 1]) 2).outcome
        = some ⟨VV.zero, 2⟩ := by
  decide +kernel

end LdarModel.Cache
