/-
Layer 3 tie for the emission state machine (DESIGN.md §10.21).

`Generated/EmissionSrc.lean` is the translation of the methods of the four emission classes, rewritten
from /repo's source on every run.  The theorems below say that, through the abstraction functions
`absR` / `absN`, every translated method *is* the corresponding function of the hand-written model
`Model/Emission.lean`, for every object (no bound on any field) that satisfies what the constructors
establish (`WFR` / `WFN`).  A change of the Python source that changes the meaning of a method makes
the corresponding theorem fail to compile.

Each method has one tie theorem; those of activation, tagging and the daily update also say that the
method keeps the `Frame`.  The `update` of the two intermittent classes is tied through that of their base
classes (`IRE_update_eq`, `INRE_update_eq`).  `Cls` packages the methods of a class; `Cls.run_tie` lifts the
ties from single calls to whole runs.

Only the aliases `RE.* / NRE.* / IRE.* / INRE.*` are mentioned here: which class of the MRO defines a
method may change freely.
-/
import LdarModel.Generated.EmissionSrc
import LdarModel.Model.Emission

namespace LdarModel.EmissionTie
open LdarModel.Emission LdarModel.EmissionSrc

/-- parameters of a repairable emission object (`i` = the class mixes in intermittency) -/
def parR (i : Bool) (o : Obj) : Params :=
  { start := o.start_date, nrd := o.nrd, repairDelay := o.repair_delay, repairable := true, intermittent := i, activeDur := o.active_duration, inactiveDur := o.inactive_duration }

/-- parameters of a non-repairable emission object -/
def parN (i : Bool) (o : Obj) : Params :=
  { start := o.start_date, nrd := o.duration, repairDelay := 0, repairable := false, intermittent := i, activeDur := o.active_duration, inactiveDur := o.inactive_duration }

/-- model state of a repairable emission object -/
def absR (o : Obj) : State :=
  { status := o.status, activeDays := o.active_days, tagged := o.tagged, dst := o.days_since_tagged, trd := o.tagging_rep_delay, by_ := o.tagged_by_company, endDate := o.repair_date, initDetect := o.init_detect_date, initDetectBy := o.init_detect_by, emitting := o.emitting, daysEmitting := o.days_emitting, onCount := o.emitting_period_day_count, offCount := o.non_emitting_period_day_count }

/-- model state of a non-repairable emission object (`_record` plays the role of `_tagged`) -/
def absN (o : Obj) : State :=
  { status := o.status, activeDays := o.active_days, tagged := o.record, dst := 0, trd := 0, by_ := o.recorded_by_company, endDate := o.expiry_date, initDetect := o.init_detect_date, initDetectBy := o.init_detect_by, emitting := o.emitting, daysEmitting := o.days_emitting, onCount := o.emitting_period_day_count, offCount := o.non_emitting_period_day_count }

/-- what `RepairableEmission.__init__` establishes (source.py always passes `repairable=True`) -/
def WFR (o : Obj) : Prop :=
  o.repairable = true ∧ o.days_active_b4_sim = (if -o.start_date > 0 then -o.start_date else 0)

/-- what `NonRepairableEmission.__init__` establishes -/
def WFN (o : Obj) : Prop :=
  o.days_active_b4_sim = (if -o.start_date > 0 then -o.start_date else 0)

/-- what stays constant over a life: rate and unit constant -/
def sameEnv (o o' : Obj) : Prop := o'.rate = o.rate ∧ o'.env_kg_per_day = o.env_kg_per_day

/-- `o'` has of `o` what no method writes: the parameters, the attributes the constructors' well-formedness
speaks of, the rate and the unit constant -/
def Frame (o o' : Obj) : Prop :=
  parR false o' = parR false o ∧ parN false o' = parN false o ∧ o'.repairable = o.repairable
  ∧ o'.days_active_b4_sim = o.days_active_b4_sim ∧ sameEnv o o'

/- Every tie is proved the same way: split on the tests the method makes; `simp` then unfolds the translated
method (the generated functions are `@[simp]`), the abstraction and the model function, and evaluates the one
path left.  Splitting first matters: a projection of an undecided `if` is copied into every field of the
abstraction. -/
attribute [local simp] absR absN parR parN Frame sameEnv

theorem Frame.trans {o o' o'' : Obj} (h : Frame o o') (h' : Frame o' o'') : Frame o o'' := by simp_all

theorem Frame.par {o o' : Obj} (h : Frame o o') (i : Bool) : parR i o' = parR i o ∧ parN i o' = parN i o := by
  simp_all

theorem Frame.wf {o o' : Obj} (h : Frame o o') : (WFR o → WFR o') ∧ (WFN o → WFN o') := by simp_all [WFR, WFN]

theorem Frame.env {o o' : Obj} (h : Frame o o') : sameEnv o o' := h.2.2.2.2

/-! ### daily update

`IntermittencyMixin.update` is `super().update()` followed, if the emission is still active, by the
on/off toggle.  So the two intermittent classes are tied through their base classes: `mixin` is that
second step on the object, `update_eq_toggle` the same decomposition of the model's `update`. -/

theorem update_eq_toggle (p : Params) (s : State) :
    Emission.update p s = (let s' := Emission.update { p with intermittent := false } s
                           if s'.status = .active then Emission.toggle p s' else s') := by
  have ht (q : Params) (s : State) (hq : q.intermittent = false) : Emission.toggle q s = s := by
    simp [Emission.toggle, hq]
  have hb (q : Params) (hq : q.start = p.start) : Emission.b4 q = Emission.b4 p := by
    rw [Emission.b4, hq, Emission.b4]
  -- every arm of `update` ends the emission or hands an active state to `toggle`
  by_cases hs : s.status = .active
  · by_cases h2 : s.activeDays + 1 + Emission.b4 p ≥ p.nrd <;> by_cases hr : p.repairable = true
    · by_cases htg : s.tagged = true <;> by_cases h1 : s.dst + 1 ≥ p.repairDelay + s.trd
        <;> simp [Emission.update, Emission.endedAt, hb, hs, hr, htg, h1, h2]
    · simp [Emission.update, Emission.endedAt, hb, hs, hr, h2]
    · by_cases htg : s.tagged = true <;> by_cases h1 : s.dst + 1 ≥ p.repairDelay + s.trd
        <;> simp [Emission.update, Emission.endedAt, ht, hb, hs, hr, htg, h1, h2]
    · simp [Emission.update, ht, hb, hs, hr, h2]
  · simp [Emission.update, hs]

/-- the object after the mixin's toggle: the four intermittency attributes are what the model's `toggle`
computes, nothing else is written -/
def toggleObj (o : Obj) : Obj :=
  let s := Emission.toggle (parR true o) (absR o)
  { o with emitting := s.emitting, days_emitting := s.daysEmitting, emitting_period_day_count := s.onCount,
           non_emitting_period_day_count := s.offCount }

/-- `IntermittencyMixin.update` after `super().update()` returned `r` -/
def mixin (r : Obj × Bool) : Obj × Bool := if r.2 then (toggleObj r.1, true) else r

/-- what `update` does besides changing the model state, the same for the four classes: the returned flag
says "still active", the frame is kept, an `EmisInfo` counter grows by one exactly on the update that ends
the emission -/
def UpdObj (o : Obj) (r : Obj × Bool) : Prop :=
  r.2 = decide (r.1.status = .active) ∧ Frame o r.1
  ∧ (o.tagged_by_company ≠ .natural →
      r.1.info_leaks_repaired = o.info_leaks_repaired
        + (if o.status = .active ∧ r.1.status = .repaired ∧ r.1.tagged_by_company ≠ .natural then 1 else 0)
      ∧ r.1.info_leaks_nat_repaired = o.info_leaks_nat_repaired
        + (if o.status = .active ∧ r.1.status = .repaired ∧ r.1.tagged_by_company = .natural then 1 else 0))
  ∧ r.1.info_emis_expired = o.info_emis_expired + (if o.status = .active ∧ r.1.status = .expired then 1 else 0)

theorem UpdObj.mixin {o : Obj} {r : Obj × Bool} (h : UpdObj o r) : UpdObj o (mixin r) := by
  obtain ⟨o', b⟩ := r
  cases b
  · exact h
  · exact ⟨h.1, h.2.1.trans ⟨rfl, rfl, rfl, rfl, rfl, rfl⟩, h.2.2⟩

theorem abs_mixin (r : Obj × Bool) (hb : r.2 = decide (r.1.status = .active)) :
    absR (mixin r).1 = (if (absR r.1).status = .active then Emission.toggle (parR true r.1) (absR r.1) else absR r.1)
    ∧ absN (mixin r).1 = (if (absN r.1).status = .active then Emission.toggle (parN true r.1) (absN r.1) else absN r.1) := by
  obtain ⟨o', b⟩ := r
  cases b
  · simp_all [mixin]
  · have hs : o'.status = .active := by simpa using hb
    by_cases he : o'.emitting = true
    · by_cases h : o'.emitting_period_day_count + 1 ≥ o'.active_duration
        <;> simp [mixin, toggleObj, Emission.toggle, hs, he, h]
    · by_cases h : o'.non_emitting_period_day_count + 1 ≥ o'.inactive_duration
        <;> simp [mixin, toggleObj, Emission.toggle, hs, he, h]

theorem b4_eq {o : Obj} (h : o.days_active_b4_sim = (if -o.start_date > 0 then -o.start_date else 0))
    (p : Params) (hp : p.start = o.start_date) : Emission.b4 p = o.days_active_b4_sim := by
  rw [h, Emission.b4, hp]

section
attribute [local simp] UpdObj Emission.update Emission.endedAt Emission.toggle

theorem RE_update_spec (o : Obj) :
    (WFR o → absR (RE.update o).1 = Emission.update (parR false o) (absR o)) ∧ UpdObj o (RE.update o) := by
  by_cases hs : o.status = .active
  rotate_left
  · simp [hs]
  by_cases ht : o.tagged = true
  · by_cases hrep : o.repairable = true
    · by_cases h1 : o.days_since_tagged + 1 ≥ o.repair_delay + o.tagging_rep_delay
      · exact ⟨fun h => by simp [hs, ht, hrep, h1, b4_eq h.2], by simp +contextual [hs, ht, hrep, h1]⟩
      · by_cases h2 : o.active_days + 1 + o.days_active_b4_sim ≥ o.nrd
          <;> exact ⟨fun h => by simp [hs, ht, hrep, h1, h2, b4_eq h.2], by simp [hs, ht, hrep, h1, h2]⟩
    · by_cases h2 : o.active_days + 1 + o.days_active_b4_sim ≥ o.nrd
        <;> exact ⟨fun h => absurd h.1 hrep, by simp [hs, ht, hrep, h2]⟩
  · by_cases h2 : o.active_days + 1 + o.days_active_b4_sim ≥ o.nrd
      <;> exact ⟨fun h => by simp [hs, ht, h2, b4_eq h.2], by simp [hs, ht, h2]⟩

theorem NRE_update_spec (o : Obj) :
    (WFN o → absN (NRE.update o).1 = Emission.update (parN false o) (absN o)) ∧ UpdObj o (NRE.update o) := by
  by_cases hs : o.status = .active
  rotate_left
  · simp [hs]
  by_cases hd : o.active_days + 1 + o.days_active_b4_sim ≥ o.duration
    <;> exact ⟨fun h => by simp [hs, hd, b4_eq h], by simp [hs, hd]⟩

end

/- `hr` is turned into "the unfolded `RE.update o` is `r`"; unfolding `IRE.update o` then meets the same
term for the inherited part (the same Python method seen from the subclass) and folds it to `r`, which
leaves the mixin's own few lines. -/
theorem IRE_update_eq (o : Obj) : IRE.update o = mixin (RE.update o) := by
  generalize hr : RE.update o = r
  simp at hr
  simp [hr]
  obtain ⟨o', b⟩ := r
  cases b
  · simp [mixin]
  · by_cases he : o'.emitting = true
    · by_cases h : o'.emitting_period_day_count + 1 ≥ o'.active_duration
        <;> simp [mixin, toggleObj, Emission.toggle, he, h]
    · by_cases h : o'.non_emitting_period_day_count + 1 ≥ o'.inactive_duration
        <;> simp [mixin, toggleObj, Emission.toggle, he, h]

theorem INRE_update_eq (o : Obj) : INRE.update o = mixin (NRE.update o) := by
  generalize hr : NRE.update o = r
  simp at hr
  simp [hr]
  obtain ⟨o', b⟩ := r
  cases b
  · simp [mixin]
  · by_cases he : o'.emitting = true
    · by_cases h : o'.emitting_period_day_count + 1 ≥ o'.active_duration
        <;> simp [mixin, toggleObj, Emission.toggle, he, h]
    · by_cases h : o'.non_emitting_period_day_count + 1 ≥ o'.inactive_duration
        <;> simp [mixin, toggleObj, Emission.toggle, he, h]

theorem IRE_update_spec (o : Obj) :
    (WFR o → absR (IRE.update o).1 = Emission.update (parR true o) (absR o)) ∧ UpdObj o (IRE.update o) := by
  obtain ⟨a, b⟩ := RE_update_spec o
  rw [IRE_update_eq]
  refine ⟨fun h => ?_, b.mixin⟩
  rw [update_eq_toggle (parR true o), (abs_mixin _ b.1).1, (b.2.1.par true).1, a h]
  rfl

theorem INRE_update_spec (o : Obj) :
    (WFN o → absN (INRE.update o).1 = Emission.update (parN true o) (absN o)) ∧ UpdObj o (INRE.update o) := by
  obtain ⟨a, b⟩ := NRE_update_spec o
  rw [INRE_update_eq]
  refine ⟨fun h => ?_, b.mixin⟩
  rw [update_eq_toggle (parN true o), (abs_mixin _ b.1).2, (b.2.1.par true).2, a h]
  rfl

theorem INRE_update (o : Obj) (h : WFN o) :
    absN (INRE.update o).1 = Emission.update (parN true o) (absN o) := (INRE_update_spec o).1 h

theorem RE_update_ret (o : Obj) (h : WFR o) :
    (RE.update o).2 = decide ((Emission.update (parR false o) (absR o)).status = .active) := by
  rw [← (RE_update_spec o).1 h]
  exact (RE_update_spec o).2.1
theorem IRE_update_ret (o : Obj) (h : WFR o) :
    (IRE.update o).2 = decide ((Emission.update (parR true o) (absR o)).status = .active) := by
  rw [← (IRE_update_spec o).1 h]
  exact (IRE_update_spec o).2.1
theorem NRE_update_ret (o : Obj) (h : WFN o) :
    (NRE.update o).2 = decide ((Emission.update (parN false o) (absN o)).status = .active) := by
  rw [← (NRE_update_spec o).1 h]
  exact (NRE_update_spec o).2.1
theorem INRE_update_ret (o : Obj) (h : WFN o) :
    (INRE.update o).2 = decide ((Emission.update (parN true o) (absN o)).status = .active) := by
  rw [← (INRE_update_spec o).1 h]
  exact (INRE_update_spec o).2.1

/-! ### the `EmisInfo` counters (C10: a repair is counted once, on the day it happens) -/

theorem RE_update_info (o : Obj) (h : WFR o) (hn : o.tagged_by_company ≠ .natural) :
    let s' := Emission.update (parR false o) (absR o)
    (RE.update o).1.info_leaks_repaired = o.info_leaks_repaired
        + (if o.status = .active ∧ s'.status = .repaired ∧ s'.by_ ≠ .natural then 1 else 0)
    ∧ (RE.update o).1.info_leaks_nat_repaired = o.info_leaks_nat_repaired
        + (if o.status = .active ∧ s'.status = .repaired ∧ s'.by_ = .natural then 1 else 0) := by
  rw [← (RE_update_spec o).1 h]
  exact (RE_update_spec o).2.2.2.1 hn
theorem IRE_update_info (o : Obj) (h : WFR o) (hn : o.tagged_by_company ≠ .natural) :
    let s' := Emission.update (parR true o) (absR o)
    (IRE.update o).1.info_leaks_repaired = o.info_leaks_repaired
        + (if o.status = .active ∧ s'.status = .repaired ∧ s'.by_ ≠ .natural then 1 else 0)
    ∧ (IRE.update o).1.info_leaks_nat_repaired = o.info_leaks_nat_repaired
        + (if o.status = .active ∧ s'.status = .repaired ∧ s'.by_ = .natural then 1 else 0) := by
  rw [← (IRE_update_spec o).1 h]
  exact (IRE_update_spec o).2.2.2.1 hn
theorem NRE_update_info (o : Obj) (h : WFN o) :
    (NRE.update o).1.info_emis_expired = o.info_emis_expired
        + (if o.status = .active ∧ (Emission.update (parN false o) (absN o)).status = .expired then 1 else 0) := by
  rw [← (NRE_update_spec o).1 h]
  exact (NRE_update_spec o).2.2.2.2
theorem INRE_update_info (o : Obj) (h : WFN o) :
    (INRE.update o).1.info_emis_expired = o.info_emis_expired
        + (if o.status = .active ∧ (Emission.update (parN true o) (absN o)).status = .expired then 1 else 0) := by
  rw [← (INRE_update_spec o).1 h]
  exact (INRE_update_spec o).2.2.2.2

/-! ### activation (reached through the source cursor: only pending emissions) -/

theorem RE_activate (o : Obj) (d : Int) :
    ((o.status = .inactive → absR (RE.activate o d).1 = Emission.activate (parR false o) d (absR o))
      ∧ Frame o (RE.activate o d).1) ∧ (RE.activate o d).2 = decide (o.start_date ≤ d) := by
  by_cases hd : o.start_date ≤ d <;> simp +contextual [Emission.activate, hd]
theorem IRE_activate (o : Obj) (d : Int) :
    ((o.status = .inactive → absR (IRE.activate o d).1 = Emission.activate (parR true o) d (absR o))
      ∧ Frame o (IRE.activate o d).1) ∧ (IRE.activate o d).2 = decide (o.start_date ≤ d) := by
  by_cases hd : o.start_date ≤ d <;> simp +contextual [Emission.activate, hd]
theorem NRE_activate (o : Obj) (d : Int) :
    ((o.status = .inactive → absN (NRE.activate o d).1 = Emission.activate (parN false o) d (absN o))
      ∧ Frame o (NRE.activate o d).1) ∧ (NRE.activate o d).2 = decide (o.start_date ≤ d) := by
  by_cases hd : o.start_date ≤ d <;> simp +contextual [Emission.activate, hd]
theorem INRE_activate (o : Obj) (d : Int) :
    ((o.status = .inactive → absN (INRE.activate o d).1 = Emission.activate (parN true o) d (absN o))
      ∧ Frame o (INRE.activate o d).1) ∧ (INRE.activate o d).2 = decide (o.start_date ≤ d) := by
  by_cases hd : o.start_date ≤ d <;> simp +contextual [Emission.activate, hd]

/-! ### tagging / recording (`Component.tag_emissions` calls `tag_leak` resp. `record_emission`, then
`update_detection_records`, on its *active* emissions)

The intermittent classes inherit these methods unchanged, so their translations are the same functions. -/

theorem IRE_tag_eq : IRE.tag_leak = RE.tag_leak ∧ IRE.update_detection_records = RE.update_detection_records :=
  ⟨rfl, rfl⟩
theorem INRE_tag_eq :
    INRE.record_emission = NRE.record_emission ∧ INRE.update_detection_records = NRE.update_detection_records :=
  ⟨rfl, rfl⟩

theorem RE_tag (o : Obj) (mr d t : Int) (c crew : Nat) (trd : Int) (i : Bool) :
    let o' := (RE.update_detection_records (RE.tag_leak o mr d t c crew trd).1 c d).1
    (o.status = .active → absR o' = Emission.tag (parR i o) d { company := c, trd := trd } (absR o))
    ∧ Frame o o' := by
  by_cases ht : o.tagged = true <;> by_cases hi : o.init_detect_by = none <;>
    simp +contextual [Emission.tag, Emission.detectRec, ht, hi]
theorem NRE_tag (o : Obj) (mr d t : Int) (c crew : Nat) (trd : Int) (i : Bool) :
    let o' := (NRE.update_detection_records (NRE.record_emission o mr d t c crew).1 c d).1
    (o.status = .active → absN o' = Emission.tag (parN i o) d { company := c, trd := trd } (absN o))
    ∧ Frame o o' := by
  by_cases ht : o.record = true <;> by_cases hi : o.init_detect_by = none <;>
    simp +contextual [Emission.tag, Emission.detectRec, ht, hi]

/-- `tag_leak` says whether the leak is new -/
theorem RE_tag_ret (o : Obj) (mr d t : Int) (c crew : Nat) (trd : Int) :
    (RE.tag_leak o mr d t c crew trd).2 = !o.tagged ∧ (IRE.tag_leak o mr d t c crew trd).2 = !o.tagged := by
  cases ht : o.tagged <;> simp [ht]

/-! ### detection records written by site-level sensors -/

theorem RE_detect (o : Obj) (c : Nat) (d : Int) (i : Bool) (h : o.status = .active) :
    absR (RE.update_detection_records o c d).1 = Emission.applyEv (parR i o) d (.detect c) (absR o)
    ∧ absR (IRE.update_detection_records o c d).1 = Emission.applyEv (parR i o) d (.detect c) (absR o) := by
  by_cases hi : o.init_detect_by = none <;> simp [Emission.applyEv, Emission.detectRec, h, hi]
theorem NRE_detect (o : Obj) (c : Nat) (d : Int) (i : Bool) (h : o.status = .active) :
    absN (NRE.update_detection_records o c d).1 = Emission.applyEv (parN i o) d (.detect c) (absN o)
    ∧ absN (INRE.update_detection_records o c d).1 = Emission.applyEv (parN i o) d (.detect c) (absN o) := by
  by_cases hi : o.init_detect_by = none <;> simp [Emission.applyEv, Emission.detectRec, h, hi]

theorem ite_mul_zero (c : Prop) [Decidable c] (a r : Int) :
    (if c then a else 0) * r = if c then a * r else 0 := by
  split <;> simp

theorem max_zero_sub (a e : Int) : max 0 (a - e) = if e < a then a - e else 0 := by omega

/-- `calc_mitigated(end_date)` = model mitigated days × rate × the unit constant; reads only -/
theorem RE_mitigated (o : Obj) (e : Int) (h : WFR o) (i : Bool) :
    (RE.calc_mitigated o e).2 = Emission.mitDays (parR i o) (absR o) e * o.rate * o.env_kg_per_day
    ∧ (RE.calc_mitigated o e).1 = o := by
  -- both sides normalise to the same case tree once the product is moved into the branches
  simp [Emission.mitDays, Emission.b4, h.2, max_zero_sub, ite_mul_zero, apply_ite Prod.snd, apply_ite Prod.fst]
theorem IRE_mitigated (o : Obj) (e : Int) (h : WFR o) (i : Bool) :
    (IRE.calc_mitigated o e).2 = Emission.mitDays (parR i o) (absR o) e * o.rate * o.env_kg_per_day
    ∧ (IRE.calc_mitigated o e).1 = o := RE_mitigated o e h i

/-- `calc_theory_date` (the "Theoretical End Date" column): start + natural repair delay, whatever the
life-cycle state — in particular whatever a program did to the leak (C01: natural end date) -/
theorem RE_theory_date (o : Obj) :
    (RE.calc_theory_date o).2 = o.start_date + o.nrd ∧ (RE.calc_theory_date o).1 = o
    ∧ (IRE.calc_theory_date o).2 = o.start_date + o.nrd ∧ (IRE.calc_theory_date o).1 = o := by simp

theorem RE_tagged_today (o : Obj) :
    (RE.tagged_today o).2 = (o.tagged && decide (o.days_since_tagged = 0) && decide (o.tagged_by_company ≠ .natural))
    ∧ (IRE.tagged_today o).2 = (o.tagged && decide (o.days_since_tagged = 0) && decide (o.tagged_by_company ≠ .natural)) := by
  simp

theorem RE_emitted (o : Obj) :
    (RE.calc_true_emis_vol o).2 = Emission.emitDays (parR false o) (absR o) * o.rate * o.env_kg_per_day
    ∧ (RE.get_days_emitting o).2 = Emission.emitDays (parR false o) (absR o)
    ∧ (RE.is_emitting o).2 = Emission.isEmitting (parR false o) (absR o) := by
  simp [Emission.emitDays, Emission.isEmitting]
theorem IRE_emitted (o : Obj) :
    (IRE.calc_true_emis_vol o).2 = Emission.emitDays (parR true o) (absR o) * o.rate * o.env_kg_per_day
    ∧ (IRE.get_days_emitting o).2 = Emission.emitDays (parR true o) (absR o)
    ∧ (IRE.is_emitting o).2 = Emission.isEmitting (parR true o) (absR o) := by
  simp [Emission.emitDays, Emission.isEmitting]
theorem NRE_emitted (o : Obj) :
    (NRE.calc_true_emis_vol o).2 = Emission.emitDays (parN false o) (absN o) * o.rate * o.env_kg_per_day
    ∧ (NRE.get_days_emitting o).2 = Emission.emitDays (parN false o) (absN o)
    ∧ (NRE.is_emitting o).2 = Emission.isEmitting (parN false o) (absN o) := by
  simp [Emission.emitDays, Emission.isEmitting]
theorem INRE_emitted (o : Obj) :
    (INRE.calc_true_emis_vol o).2 = Emission.emitDays (parN true o) (absN o) * o.rate * o.env_kg_per_day
    ∧ (INRE.get_days_emitting o).2 = Emission.emitDays (parN true o) (absN o)
    ∧ (INRE.is_emitting o).2 = Emission.isEmitting (parN true o) (absN o) := by
  simp [Emission.emitDays, Emission.isEmitting]

/-- nothing was left untranslated (otherwise the theorems above talk about placeholders) -/
theorem all_translated : EmissionSrc.untranslated = [] := by decide

/-- the method resolution orders the translation relied on -/
theorem mros_as_modelled : EmissionSrc.mros =
    [("RepairableEmission", ["RepairableEmission", "Emission"]),
     ("NonRepairableEmission", ["NonRepairableEmission", "Emission"]),
     ("IntermittentRepairableEmission", ["IntermittentRepairableEmission", "IntermittencyMixin", "RepairableEmission", "Emission"]),
     ("IntermittentNonRepairableEmission", ["IntermittentNonRepairableEmission", "IntermittencyMixin", "NonRepairableEmission", "Emission"])] := rfl

end LdarModel.EmissionTie

/-! ### from methods to runs

The model's day (`Emission.day`) is: activation of a pending emission, the day's tag requests, the daily
update.  `Cls.day` is the same composition *on the translated methods*; `run_tie` shows by induction
over the days that iterating it is the model's `run`, so every theorem of C02/C03/C04/C11 about
`Emission.run` is a theorem about the translated code driven in this order.  That `Component` /
`Source` / `LdarSim.run_simulation` call the methods in this order (and only then) is what remains tied
by the differential correspondence. -/

namespace LdarModel.EmissionTie
open LdarModel.Emission LdarModel.EmissionSrc

/-- the translated methods of one emission class, with its abstraction -/
structure Cls where
  activate : Obj → Int → Obj
  tagStep : Obj → Int → TagEv → Obj
  update : Obj → Obj
  abs : Obj → State
  par : Obj → Params
  WF : Obj → Prop

/-- the per-method ties a class has to provide -/
structure Cls.Ok (c : Cls) : Prop where
  status : ∀ o, (c.abs o).status = o.status
  act : ∀ o d, o.status = .inactive → c.WF o →
    c.abs (c.activate o d) = Emission.activate (c.par o) d (c.abs o) ∧ c.WF (c.activate o d) ∧ c.par (c.activate o d) = c.par o
  tag : ∀ o d e, o.status = .active → c.WF o →
    c.abs (c.tagStep o d e) = Emission.tag (c.par o) d e (c.abs o) ∧ c.WF (c.tagStep o d e) ∧ c.par (c.tagStep o d e) = c.par o
  upd : ∀ o, c.WF o →
    c.abs (c.update o) = Emission.update (c.par o) (c.abs o) ∧ c.WF (c.update o) ∧ c.par (c.update o) = c.par o
  env : ∀ o d e, sameEnv o (c.activate o d) ∧ sameEnv o (c.tagStep o d e) ∧ sameEnv o (c.update o)

/-- the day's tag requests on the translated methods (`Component.tag_emissions` touches active emissions only) -/
def Cls.tags (c : Cls) (d : Int) (evs : List TagEv) (o : Obj) : Obj :=
  evs.foldl (fun o e => if o.status = .active then c.tagStep o d e else o) o

def Cls.day (c : Cls) (d : Int) (evs : List TagEv) (o : Obj) : Obj :=
  c.update (c.tags d evs (if o.status = .inactive then c.activate o d else o))

def Cls.run (c : Cls) (ev : Nat → List TagEv) (o0 : Obj) : Nat → Obj
  | 0 => o0
  | n + 1 => c.day n (ev n) (c.run ev o0 n)

/-- the object `o` of class `c` stands for the model state `s` of an emission with parameters `p` -/
def Cls.Rel (c : Cls) (p : Params) (o : Obj) (s : State) : Prop := c.abs o = s ∧ c.WF o ∧ c.par o = p

theorem Cls.Rel.tags {c : Cls} (ok : c.Ok) {p : Params} (d : Int) (evs : List TagEv) {o : Obj} {s : State}
    (h : c.Rel p o s) : c.Rel p (c.tags d evs o) (evs.foldl (fun s e => Emission.tag p d e s) s) := by
  induction evs generalizing o s with
  | nil => exact h
  | cons e es ih =>
    obtain ⟨rfl, hw, rfl⟩ := h
    simp only [Cls.tags, List.foldl_cons]
    split
    next ha => exact ih (ok.tag o d e ha hw)
    next ha =>
      rw [show Emission.tag (c.par o) d e (c.abs o) = c.abs o by simp [Emission.tag, ok.status, ha]]
      exact ih ⟨rfl, hw, rfl⟩

theorem Cls.Rel.day {c : Cls} (ok : c.Ok) {p : Params} (d : Int) (evs : List TagEv) {o : Obj} {s : State}
    (h : c.Rel p o s) : c.Rel p (c.day d evs o) (Emission.day p d evs s) := by
  obtain ⟨rfl, hw, rfl⟩ := h
  have act : c.Rel (c.par o) (if o.status = .inactive then c.activate o d else o)
      (Emission.activate (c.par o) d (c.abs o)) := by
    split
    next hi => exact ok.act o d hi hw
    next hi => exact ⟨by simp [Emission.activate, ok.status, hi], hw, rfl⟩
  obtain ⟨t1, t2, t3⟩ := act.tags ok d evs
  have u := ok.upd _ t2
  rwa [t1, t3] at u

/-- **iterating the translated methods is the model's run** -/
theorem Cls.run_tie (c : Cls) (ok : c.Ok) (ev : Nat → List TagEv) (o0 : Obj) (h : c.WF o0)
    (h0 : c.abs o0 = Emission.init) (n : Nat) :
    c.abs (c.run ev o0 n) = Emission.run (c.par o0) ev n
    ∧ c.WF (c.run ev o0 n) ∧ c.par (c.run ev o0 n) = c.par o0 := by
  induction n with
  | zero => exact ⟨h0, h, rfl⟩
  | succ n ih => exact Cls.Rel.day ok n (ev n) ih

theorem sameEnv.trans {o o' o'' : Obj} (h : sameEnv o o') (h' : sameEnv o' o'') : sameEnv o o'' :=
  ⟨h'.1.trans h.1, h'.2.trans h.2⟩

theorem Cls.tags_env (c : Cls) (ok : c.Ok) (d : Int) (evs : List TagEv) (o : Obj) : sameEnv o (c.tags d evs o) := by
  induction evs generalizing o with
  | nil => exact ⟨rfl, rfl⟩
  | cons e es ih =>
    simp only [Cls.tags, List.foldl_cons]
    split
    · exact (ok.env o d e).2.1.trans (ih _)
    · exact ih o

theorem Cls.run_env (c : Cls) (ok : c.Ok) (ev : Nat → List TagEv) (o0 : Obj) (n : Nat) : sameEnv o0 (c.run ev o0 n) := by
  induction n with
  | zero => exact ⟨rfl, rfl⟩
  | succ n ih =>
    refine ih.trans (.trans (.trans ?_ (c.tags_env ok n (ev n) _)) (ok.env _ n default).2.2)
    split
    · exact (ok.env _ n default).1
    · exact ⟨rfl, rfl⟩

def clsRE : Cls :=
  { activate := fun o d => (RE.activate o d).1, tagStep := fun o d e => (RE.update_detection_records (RE.tag_leak o 0 d 0 e.company 0 e.trd).1 e.company d).1, update := fun o => (RE.update o).1, abs := absR, par := parR false, WF := WFR }
def clsIRE : Cls :=
  { activate := fun o d => (IRE.activate o d).1, tagStep := fun o d e => (IRE.update_detection_records (IRE.tag_leak o 0 d 0 e.company 0 e.trd).1 e.company d).1, update := fun o => (IRE.update o).1, abs := absR, par := parR true, WF := WFR }
def clsNRE : Cls :=
  { activate := fun o d => (NRE.activate o d).1, tagStep := fun o d e => (NRE.update_detection_records (NRE.record_emission o 0 d 0 e.company 0).1 e.company d).1, update := fun o => (NRE.update o).1, abs := absN, par := parN false, WF := WFN }
def clsINRE : Cls :=
  { activate := fun o d => (INRE.activate o d).1, tagStep := fun o d e => (INRE.update_detection_records (INRE.record_emission o 0 d 0 e.company 0).1 e.company d).1, update := fun o => (INRE.update o).1, abs := absN, par := parN true, WF := WFN }

theorem Cls.Ok.of_frames {c : Cls} (st : ∀ o, (c.abs o).status = o.status)
    (wf : ∀ {o o'}, Frame o o' → c.WF o → c.WF o') (par : ∀ {o o'}, Frame o o' → c.par o' = c.par o)
    (act : ∀ o d, (o.status = .inactive → c.abs (c.activate o d) = Emission.activate (c.par o) d (c.abs o))
      ∧ Frame o (c.activate o d))
    (tag : ∀ o d e, (o.status = .active → c.abs (c.tagStep o d e) = Emission.tag (c.par o) d e (c.abs o))
      ∧ Frame o (c.tagStep o d e))
    (upd : ∀ o, (c.WF o → c.abs (c.update o) = Emission.update (c.par o) (c.abs o)) ∧ Frame o (c.update o)) :
    c.Ok where
  status := st
  act := fun o d hi h => ⟨(act o d).1 hi, wf (act o d).2 h, par (act o d).2⟩
  tag := fun o d e ha h => ⟨(tag o d e).1 ha, wf (tag o d e).2 h, par (tag o d e).2⟩
  upd := fun o h => ⟨(upd o).1 h, wf (upd o).2 h, par (upd o).2⟩
  env := fun o d e => ⟨(act o d).2.env, (tag o d e).2.env, (upd o).2.env⟩

theorem clsRE_ok : clsRE.Ok :=
  .of_frames (fun _ => rfl) (·.wf.1) (fun f => (f.par false).1) (fun o d => (RE_activate o d).1)
    (fun o d e => RE_tag o 0 d 0 e.company 0 e.trd false) (fun o => ⟨(RE_update_spec o).1, (RE_update_spec o).2.2.1⟩)

theorem clsIRE_ok : clsIRE.Ok :=
  .of_frames (fun _ => rfl) (·.wf.1) (fun f => (f.par true).1) (fun o d => (IRE_activate o d).1)
    (fun o d e => by
      have t := RE_tag o 0 d 0 e.company 0 e.trd true
      rwa [← IRE_tag_eq.1, ← IRE_tag_eq.2] at t)
    (fun o => ⟨(IRE_update_spec o).1, (IRE_update_spec o).2.2.1⟩)

theorem clsNRE_ok : clsNRE.Ok :=
  .of_frames (fun _ => rfl) (·.wf.2) (fun f => (f.par false).2) (fun o d => (NRE_activate o d).1)
    (fun o d e => NRE_tag o 0 d 0 e.company 0 e.trd false) (fun o => ⟨(NRE_update_spec o).1, (NRE_update_spec o).2.2.1⟩)

theorem clsINRE_ok : clsINRE.Ok :=
  .of_frames (fun _ => rfl) (·.wf.2) (fun f => (f.par true).2) (fun o d => (INRE_activate o d).1)
    (fun o d e => by
      have t := NRE_tag o 0 d 0 e.company 0 e.trd true
      rwa [← INRE_tag_eq.1, ← INRE_tag_eq.2] at t)
    (fun o => ⟨(INRE_update_spec o).1, (INRE_update_spec o).2.2.1⟩)

/-- the run-level tie, instantiated: any number of days, any tag schedule, any object the constructor
can produce -/
theorem RE_run (ev : Nat → List TagEv) (o0 : Obj) (h : WFR o0) (h0 : absR o0 = Emission.init) (n : Nat) :
    absR (clsRE.run ev o0 n) = Emission.run (parR false o0) ev n := (clsRE.run_tie clsRE_ok ev o0 h h0 n).1
theorem IRE_run (ev : Nat → List TagEv) (o0 : Obj) (h : WFR o0) (h0 : absR o0 = Emission.init) (n : Nat) :
    absR (clsIRE.run ev o0 n) = Emission.run (parR true o0) ev n := (clsIRE.run_tie clsIRE_ok ev o0 h h0 n).1
theorem NRE_run (ev : Nat → List TagEv) (o0 : Obj) (h : WFN o0) (h0 : absN o0 = Emission.init) (n : Nat) :
    absN (clsNRE.run ev o0 n) = Emission.run (parN false o0) ev n := (clsNRE.run_tie clsNRE_ok ev o0 h h0 n).1
theorem INRE_run (ev : Nat → List TagEv) (o0 : Obj) (h : WFN o0) (h0 : absN o0 = Emission.init) (n : Nat) :
    absN (clsINRE.run ev o0 n) = Emission.run (parN true o0) ev n := (clsINRE.run_tie clsINRE_ok ev o0 h h0 n).1

/-- the hypotheses are satisfiable: a freshly constructed repairable leak that started 3 days before the period -/
example : ∃ o : Obj, WFR o ∧ absR o = Emission.init ∧ o.start_date = -3 ∧ o.nrd = 10 :=
  ⟨{ (default : Obj) with repairable := true, start_date := -3, days_active_b4_sim := 3, nrd := 10, status := .inactive, tagged_by_company := .none }, by simp [WFR], by decide, rfl, rfl⟩

end LdarModel.EmissionTie
