/-
Layer 3 tie for the flagging decision of mobile screening methods (C09; DESIGN.md §10.21).

`Generated/FollowUpSrc.lean` is the translation of `SiteLevelMethod.update_mobile`, rewritten from
/repo's source on every run: the decision tree over the per-site flags and the threshold comparisons,
with every call on the candidate pool, on the plan and on the follow-up schedule recorded in `effects`.
`interp` gives each recorded call the meaning the model gives it (`poolTake`, `qFindLast` / `qRemove`,
`updPlan`, `enqueue`, `poolInsert`, `newPlan`).  `update_mobile_tie`: for every state in which the site's
plan can be found where the flags say it is, running the translated decision and interpreting its calls
yields the non-ghost part of `FollowUp.updMobile`.
-/
import LdarModel.Generated.FollowUpSrc
import LdarModel.Lemmas.FollowUp

namespace LdarModel.FollowUpTie
open LdarModel.FollowUp LdarModel.FollowUpSrc

/-- what `update_mobile` touches, without the model's ghost bookkeeping -/
structure Core where
  pool : List Plan
  queue : List QE
  inPool : Bool          -- the site's entry of `_site_IDs_in_consideration_for_flag`
  inQueue : Bool         -- the site's entry of `_site_IDs_in_follow_up_queue`
  count : Nat
  deriving DecidableEq, Repr

def coreOf (site : Nat) (st : St) : Core :=
  { pool := st.m.pool, queue := st.sh.queue, inPool := st.m.inPool site, inQueue := st.sh.inQueue site, count := st.m.count }

/-- working state of the interpretation: the plan object in hand, pool and queue -/
structure W where
  cur : Option Plan := none
  pool : List Plan
  queue : List QE

def enq (cls : Nat) (pl : Plan) (q : List QE) : List QE := qInsert { cls := if pl.inProg then 1 else cls, plan := pl } q

/-- the meaning of one recorded call -/
def interp1 (p : Params) (dc : Int) (r : Rec) (w : W) (lab : String) : Option W :=
  if lab = "pool_take(detection_record.site_id)" then
    some { w with cur := (poolTake r.site w.pool).1, pool := (poolTake r.site w.pool).2 }
  else if lab = "queue_find(detection_record.site_id)" then
    some { w with cur := qFindLast r.site w.queue, queue := qRemove r.site w.queue }
  else if lab = "plan_update@$pool_take(detection_record, self._redund_filter, self._name, date_to_check)"
       ∨ lab = "plan_update@$queue_find(detection_record, self._redund_filter, self._name, date_to_check)" then
    some { w with cur := w.cur.map (fun pl => updPlan p pl r.rate dc) }
  else if lab = "enqueue2($pool_take)" ∨ lab = "enqueue2($queue_find)" then
    w.cur.map (fun pl => { w with queue := enq 2 pl w.queue })
  else if lab = "enqueue3($queue_find)" then
    w.cur.map (fun pl => { w with queue := enq 3 pl w.queue })
  else if lab = "pool_add($pool_take)" then
    w.cur.map (fun pl => { w with pool := poolInsert pl w.pool })
  else if lab = "enqueue2(new FollowUpSurveyPlanner)" then
    some { w with queue := enq 2 (newPlan p r dc) w.queue }
  else if lab = "pool_add(new FollowUpSurveyPlanner)" ∨ lab = "pool_add(new StationaryFollowUpSurveyPlanner)" then
    some { w with pool := poolInsert (newPlan p r dc) w.pool }
  else none

def interp (p : Params) (dc : Int) (r : Rec) : List String → W → Option W
  | [], w => some w
  | l :: ls, w => (interp1 p dc r w l).bind (interp p dc r ls)

/-- the object the translated method starts from, for model state `st` and record `r`; the two `plan_ge_*`
flags are those of the site's plan after `update_with_latest_survey` (taken from the pool or from the queue,
wherever the flags say) -/
def Rel (o : Obj) (p : Params) (dc : Int) (r : Rec) (st : St) : Prop :=
  o.effects = [] ∧ o.in_pool = st.m.inPool r.site ∧ o.in_queue = st.sh.inQueue r.site ∧
  o.rec_rate = r.rate ∧ o.threshold = p.thr ∧ o.rec_ge_inst = geInst p r.rate ∧
  o.detection_count = (st.m.count : Rat) ∧
  (st.m.inPool r.site = true → ∃ pl, (poolTake r.site st.m.pool).1 = some pl ∧
      o.plan_ge_inst = geInst p (updPlan p pl r.rate dc).rate ∧ o.plan_ge_thr = decide (p.thr ≤ (updPlan p pl r.rate dc).rate)) ∧
  (st.m.inPool r.site = false → st.sh.inQueue r.site = true → ∃ pl, qFindLast r.site st.sh.queue = some pl ∧
      o.plan_ge_inst = geInst p (updPlan p pl r.rate dc).rate ∧ o.plan_ge_thr = decide (p.thr ≤ (updPlan p pl r.rate dc).rate))

attribute [local simp] coreOf interp interp1 enq flagSite enqueue setB newPlan

/-- **`update_mobile` is `updMobile`** (non-ghost part): pool, queue, the site's two flags and the
detection counter after the translated decision + its interpreted calls are those of the model -/
theorem update_mobile_tie (o : Obj) (p : Params) (d dc : Int) (r : Rec) (st : St) (h : Rel o p dc r st) :
    let o' := (update_mobile o).1
    ∃ w, interp p dc r o'.effects { pool := st.m.pool, queue := st.sh.queue } = some w ∧
      coreOf r.site (updMobile p d dc r st)
        = { pool := w.pool, queue := w.queue, inPool := o'.in_pool, inQueue := o'.in_queue,
            count := (coreOf r.site (updMobile p d dc r st)).count }
      ∧ o'.detection_count = ((updMobile p d dc r st).m.count : Rat) := by
  obtain ⟨dcnt, thr, ip, iq, pgi, pgt, rgi, rr, eff⟩ := o
  obtain ⟨rfl, rfl, rfl, rfl, rfl, rfl, rfl, hpool, hqueue⟩ := h
  cases c1 : st.m.inPool r.site
  · cases c4 : st.sh.inQueue r.site
    · by_cases c5 : geInst p r.rate = true
      · simp [updMobile, c1, c4, c5]
      · by_cases c6 : r.rate ≠ 0 ∧ p.thr ≤ r.rate
        · simp [updMobile, c1, c4, c5, c6]
        · by_cases c7 : 0 < r.rate <;> simp [updMobile, c1, c4, c5, c6, c7]
    · obtain ⟨pl, hpl, rfl, rfl⟩ := hqueue c1 c4
      by_cases c2 : geInst p (updPlan p pl r.rate dc).rate = true
      · simp [updMobile, c1, c4, c2, hpl]
      · by_cases c3 : p.thr ≤ (updPlan p pl r.rate dc).rate <;> simp [updMobile, c1, c4, c2, c3, hpl]
  · obtain ⟨pl, hpl, rfl, rfl⟩ := hpool c1
    obtain ⟨pool', hpk⟩ : ∃ pool', poolTake r.site st.m.pool = (some pl, pool') := ⟨_, Prod.ext hpl rfl⟩
    have hsite := (poolTake_some hpk).1
    by_cases c2 : geInst p (updPlan p pl r.rate dc).rate = true
    · simp [updMobile, c1, c2, hpk, hsite]
    · by_cases c3 : p.thr ≤ (updPlan p pl r.rate dc).rate <;> simp [updMobile, c1, c2, c3, hpk]

/-- **`update_stationary` is `updStationary`** (non-ghost part) -/
theorem update_stationary_tie (o : Obj) (p : Params) (d dc : Int) (r : Rec) (st : St) (h : Rel o p dc r st) :
    let o' := (update_stationary o).1
    ∃ w, interp p dc r o'.effects { pool := st.m.pool, queue := st.sh.queue } = some w ∧
      coreOf r.site (updStationary p d dc r st)
        = { pool := w.pool, queue := w.queue, inPool := o'.in_pool, inQueue := o'.in_queue,
            count := (coreOf r.site (updStationary p d dc r st)).count }
      ∧ o'.detection_count = ((updStationary p d dc r st).m.count : Rat) := by
  obtain ⟨dcnt, thr, ip, iq, pgi, pgt, rgi, rr, eff⟩ := o
  obtain ⟨rfl, rfl, rfl, rfl, rfl, rfl, rfl, hpool, hqueue⟩ := h
  cases c1 : st.m.inPool r.site
  · cases c4 : st.sh.inQueue r.site
    · simp [updStationary, c1, c4]
    · obtain ⟨pl, hpl, rfl, rfl⟩ := hqueue c1 c4
      by_cases c2 : geInst p (updPlan p pl r.rate dc).rate = true <;> simp [updStationary, c1, c4, c2, hpl]
  · obtain ⟨pl, hpl, rfl, rfl⟩ := hpool c1
    obtain ⟨pool', hpk⟩ : ∃ pool', poolTake r.site st.m.pool = (some pl, pool') := ⟨_, Prod.ext hpl rfl⟩
    have hsite := (poolTake_some hpk).1
    by_cases c2 : geInst p (updPlan p pl r.rate dc).rate = true <;> simp [updStationary, c1, c2, hpk, hsite]

theorem all_translated : FollowUpSrc.untranslated = [] := by decide

end LdarModel.FollowUpTie

/-! non-vacuity: a site in the candidate pool (rate 3) is screened again at rate 5 with threshold 2 and no
instant threshold: `Rel` holds and the translated decision takes the plan, updates it and puts it back -/
namespace LdarModel.FollowUpTie
open LdarModel.FollowUp LdarModel.FollowUpSrc

def exPl : Plan := { site := 7, rate := 3, rateLong := 0, rates := [3], latest := 1 }
def exSt : St := { m := { pool := [exPl], inPool := fun s => s = 7 }, sh := {} }
def exPar : Params := { thr := 2 }
def exRec : Rec := { date := 4, site := 7, rate := 5 }
def exObj : Obj :=
  { detection_count := 0, threshold := 2, in_pool := true, in_queue := false, plan_ge_inst := false,
    plan_ge_thr := true, rec_ge_inst := false, rec_rate := 5, effects := [] }

example : Rel exObj exPar 4 exRec exSt := by
  refine ⟨rfl, by decide, by decide, by decide, by decide, by decide, by decide, ?_, ?_⟩
  · intro _; exact ⟨exPl, by decide, by decide, by decide⟩
  · intro h; simp [exSt, exRec] at h

example : (update_mobile exObj).1.effects =
    ["pool_take(detection_record.site_id)",
     "plan_update@$pool_take(detection_record, self._redund_filter, self._name, date_to_check)",
     "pool_add($pool_take)"] := rfl

end LdarModel.FollowUpTie
