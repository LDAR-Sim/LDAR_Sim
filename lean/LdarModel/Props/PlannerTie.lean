/-
Layer 3 tie for the routine-survey guard (C06; DESIGN.md §10.21).

`Generated/PlannerSrc.lean` is the translation of `queue_site_for_survey` (routine / mobile and
stationary planners) and `add_to_surveys_done`, rewritten from /repo's source on every run.  The
theorems say that, for every planner object related (`Rel`) to a model planner `(p, dt, s)`, the
translated guard returns `Sched.guardRoutine` / `guardStationary`, sets `_queued` exactly when it
returns True, and that `add_to_surveys_done` is `Sched.finish`.
-/
import LdarModel.Generated.PlannerSrc
import LdarModel.Model.Planner

namespace LdarModel.PlannerTie
open LdarModel.Sched LdarModel.PlannerSrc

/-- the planner object `o` shows the model planner `(p, s)` on the date `dt` -/
def Rel (o : Obj) (p : PlannerP) (dt : Date) (s : PlannerS) : Prop :=
  o.year_ok = decide (dt.y ∈ p.depYears) ∧ o.month_ok = decide (dt.m ∈ p.months) ∧ o.queued = s.queued ∧
  o.cur_year = (dt.y : Int) ∧ o.cur_month = (dt.m : Int) ∧ o.cur_day = (dt.d : Int) ∧
  o.done_ (dt.y : Int) = (done s dt.y : Int) ∧ o.required (dt.y : Int) = (required p dt.y : Int) ∧
  ∀ (i : Nat) (hi : i < p.plan.length),
    o.plan_month (i : Int) = ((p.plan[i]).1 : Int) ∧ o.plan_day (i : Int) = ((p.plan[i]).2 : Int)

theorem mdLe_cast (a b c d : Nat) :
    ((a : Int) < (c : Int) ∨ ((a : Int) = (c : Int) ∧ (b : Int) ≤ (d : Int))) ↔ mdLe (a, b) (c, d) := by
  unfold mdLe
  simp only [Int.ofNat_lt, Int.ofNat_le, Int.ofNat_inj]

/-- **`ScheduledSurveyPlanner.queue_site_for_survey` is `guardRoutine`** (the plan has an entry for every
required survey: `_gen_survey_plan` creates `site_annual_rs` of them), for the base class and as inherited
by `MobileSurveyPlanner` -/
theorem routine_guard (o : Obj) (p : PlannerP) (dt : Date) (s : PlannerS) (h : Rel o p dt s)
    (hlen : required p dt.y ≤ p.plan.length) :
    (Routine.queue_site_for_survey o).2 = guardRoutine p dt s
    ∧ (Routine.queue_site_for_survey o).1.queued = (s.queued || guardRoutine p dt s) := by
  obtain ⟨hy, hm, hq, hcy, hcm, hcd, hd, hr, hp⟩ := h
  unfold guardRoutine
  simp only [Routine.queue_site_for_survey, ScheduledSurveyPlanner__ScheduledSurveyPlanner__queue_site_for_survey,
    ScheduledSurveyPlanner__ScheduledSurveyPlanner___check_deployable_year,
    ScheduledSurveyPlanner__ScheduledSurveyPlanner___check_deployable_month, hy, hm, hq, hcy, hcm, hcd, hd, hr]
  by_cases c1 : dt.y ∈ p.depYears
  · by_cases c2 : dt.m ∈ p.months
    · cases c3 : s.queued
      · by_cases c4 : done s dt.y < required p dt.y
        · have hi : done s dt.y < p.plan.length := by omega
          have c4' : (required p dt.y : Int) > done s dt.y := by exact_mod_cast c4
          simp only [c1, c2, c4, c4', hp _ hi, List.getElem?_eq_getElem hi, mdLe_cast]
          by_cases c5 : mdLe (p.plan[done s dt.y]) (dt.m, dt.d) <;> simp [c5, hq, c3]
        · simp [c1, c2, c3, c4, hq]
      · simp [c1, c2, c3, hq]
    · simp [c1, c2, hq]
  · simp [c1, hq]

/-- `MobileSurveyPlanner` inherits the method: its translation unfolds to the same term -/
theorem mobile_guard (o : Obj) (p : PlannerP) (dt : Date) (s : PlannerS) (h : Rel o p dt s)
    (hlen : required p dt.y ≤ p.plan.length) :
    (Mobile.queue_site_for_survey o).2 = guardRoutine p dt s
    ∧ (Mobile.queue_site_for_survey o).1.queued = (s.queued || guardRoutine p dt s) :=
  routine_guard o p dt s h hlen

/-- **`StationarySurveyPlanner.queue_site_for_survey` is `guardStationary`** -/
theorem stationary_guard (o : Obj) (p : PlannerP) (dt : Date) (s : PlannerS) (h : Rel o p dt s) :
    (Stationary.queue_site_for_survey o).2 = guardStationary p dt s
    ∧ (Stationary.queue_site_for_survey o).1.queued = (s.queued || guardStationary p dt s) := by
  obtain ⟨hy, hm, hq, hcy, -, -, -, hr, -⟩ := h
  by_cases c1 : dt.y ∈ p.depYears <;> by_cases c2 : dt.m ∈ p.months <;> by_cases c3 : s.queued = true
    <;> by_cases c4 : 0 < required p dt.y
    <;> simp [guardStationary, hy, hm, hq, hcy, hr, c1, c2, c3, c4]

/-- **`add_to_surveys_done(current_date)` is `finish current_date.year`**: the counter of that year (and
of no other year) grows by one, the queued flag and the active report are cleared -/
theorem add_done (o : Obj) (y : Nat) (s : PlannerS) (hy : o.arg_year = (y : Int))
    (hd : ∀ k : Nat, o.done_ (k : Int) = (done s k : Int)) :
    let o' := (Routine.add_to_surveys_done o).1
    (∀ k : Nat, o'.done_ (k : Int) = (done (finish y s) k : Int))
    ∧ o'.queued = (finish y s).queued ∧ o'.active_survey_report = none ∧ (finish y s).rep = none
    ∧ (Stationary.add_to_surveys_done o).1.queued = false
    ∧ (∀ k : Nat, (Stationary.add_to_surveys_done o).1.done_ (k : Int) = (done (finish y s) k : Int)) := by
  have key : ∀ k : Nat, (if (k : Int) = o.arg_year then o.done_ o.arg_year + 1 else o.done_ (k : Int))
      = (done (finish y s) k : Int) := by
    intro k
    by_cases hk : k = y
    · subst hk; simp [hy, hd, done, finish]
    · simp [hy, hd, done, finish, Int.natCast_inj, hk, Ne.symm hk]
  simpa [finish] using key

theorem all_translated : PlannerSrc.untranslated = [] := by decide

/-- the mobile planner inherits both methods, the stationary planner overrides the guard only -/
theorem owners_as_modelled : PlannerSrc.owners =
    [("ScheduledSurveyPlanner", "ScheduledSurveyPlanner", "ScheduledSurveyPlanner"),
     ("MobileSurveyPlanner", "ScheduledSurveyPlanner", "ScheduledSurveyPlanner"),
     ("StationarySurveyPlanner", "StationarySurveyPlanner", "ScheduledSurveyPlanner")] := rfl

end LdarModel.PlannerTie

/-! non-vacuity: a concrete planner object related to a concrete model planner on 15 March 2023 (two
surveys required, none done, first plan date 1 March): the guard fires, on both sides -/
namespace LdarModel.PlannerTie
open LdarModel.Sched LdarModel.PlannerSrc

def exP : PlannerP := { rs := 2, months := [3, 4], depYears := [2023], simYears := [2023], plan := [(3, 1), (9, 1)] }
def exO : Obj :=
  { queued := false, active_survey_report := none, year_ok := true, month_ok := true, cur_year := 2023,
    cur_month := 3, cur_day := 15, arg_year := 2023, required := fun y => if y = 2023 then 2 else 0,
    done_ := fun _ => 0, plan_month := fun i => if i = 0 then 3 else 9, plan_day := fun _ => 1 }

example : Rel exO exP { y := 2023, m := 3, d := 15 } {} := by
  refine ⟨by decide, by decide, rfl, rfl, rfl, rfl, by decide, by decide, ?_⟩
  intro i hi
  have : i = 0 ∨ i = 1 := by simp [exP] at hi; omega
  rcases this with h | h <;> subst h <;> simp [exO, exP]

example : guardRoutine exP { y := 2023, m := 3, d := 15 } {} = true
    ∧ (Routine.queue_site_for_survey exO).2 = true := by decide

end LdarModel.PlannerTie
