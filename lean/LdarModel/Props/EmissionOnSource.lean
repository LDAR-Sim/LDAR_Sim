/-
The properties C02 / C03 / C04, stated directly about the *translated source* of the emission classes
(`Generated/EmissionSrc.lean`, regenerated from /repo on every run) driven day by day in the order
`Cls.day` fixes: corollaries of the model theorems (`Props/C02–C04`) and of the run-level tie
(`Props/EmissionTie.lean: RE_run …`).  Quantities are those the code computes itself:
`calc_true_emis_vol`, `calc_mitigated(end)`, `_active_days`, `_repair_date`, `_tagged_by_company`.
-/
import LdarModel.Props.EmissionTie
import LdarModel.Props.C02
import LdarModel.Props.C03
import LdarModel.Props.C04

namespace LdarModel.EmissionOnSource
open LdarModel.Emission LdarModel.EmissionSrc LdarModel.EmissionTie

/-- **C02 on the source, persistent repairable leak**: what the code reports as emitted plus what it
reports as mitigated (with the end date `run_simulation` hands in) equals what it reports as emitted in
the no-LDAR run of the same object — for every start date, duration, delay, tag schedule, horizon, rate. -/
theorem C02_on_source (ev : Nat → List TagEv) (o0 : Obj) (h : WFR o0) (h0 : absR o0 = Emission.init) (N : Nat) :
    let o := clsRE.run ev o0 N
    let b := clsRE.run noEvents o0 N
    (RE.calc_true_emis_vol o).2 + (RE.calc_mitigated o (N : Int)).2 = (RE.calc_true_emis_vol b).2 := by
  intro o b
  obtain ⟨ao, wo, po⟩ := clsRE.run_tie clsRE_ok ev o0 h h0 N
  obtain ⟨ab, _, pb⟩ := clsRE.run_tie clsRE_ok noEvents o0 h h0 N
  have eo := clsRE.run_env clsRE_ok ev o0 N
  have eb := clsRE.run_env clsRE_ok noEvents o0 N
  rw [(RE_emitted o).1, (RE_emitted b).1, (RE_mitigated o N wo false).1, show parR false o = _ from po,
    show parR false b = _ from pb, show absR o = _ from ao, show absR b = _ from ab, eo.1, eo.2, eb.1, eb.2, ← Int.add_mul, ← Int.add_mul]
  exact congrArg (· * o0.rate * o0.env_kg_per_day) (C02_partial (parR false o0) ev N rfl rfl).1

/-- **C03 on the source**: a program never keeps a repairable leak active longer than the no-LDAR run -/
theorem C03_on_source (ev : Nat → List TagEv) (o0 : Obj) (h : WFR o0) (h0 : absR o0 = Emission.init) (N : Nat) :
    (clsRE.run ev o0 N).active_days ≤ (clsRE.run noEvents o0 N).active_days
    ∧ (clsIRE.run ev o0 N).active_days ≤ (clsIRE.run noEvents o0 N).active_days := by
  constructor
  · have key := C03_le_baseline (parR false o0) rfl ev N
    rwa [baseline, ← RE_run ev o0 h h0 N, ← RE_run noEvents o0 h h0 N] at key
  · have key := C03_le_baseline (parR true o0) rfl ev N
    rwa [baseline, ← IRE_run ev o0 h h0 N, ← IRE_run noEvents o0 h h0 N] at key

/-- **C03 on the source, non-repairable emissions**: status, days active, expiry date are those of the
no-LDAR run whatever was recorded, and the status is never `repaired` -/
theorem C03_nonrepairable_on_source (ev : Nat → List TagEv) (o0 : Obj) (h : WFN o0) (h0 : absN o0 = Emission.init) (N : Nat) :
    let o := clsNRE.run ev o0 N
    let b := clsNRE.run noEvents o0 N
    o.status = b.status ∧ o.active_days = b.active_days ∧ o.expiry_date = b.expiry_date ∧ o.status ≠ .repaired := by
  have key := C03_nonrepairable (parN false o0) rfl ev N
  rw [baseline, ← NRE_run ev o0 h h0 N, ← NRE_run noEvents o0 h h0 N] at key
  exact ⟨key.1, key.2.1, key.2.2.2.1, key.2.2.2.2.1⟩

/-- **C04 on the source**: a leak the code reports as repaired by a method was reached by a tag request of
that method on some day `T` it was active, no earlier request reached it, and its repair date is exactly
`T + max 1 (repair delay + that request's reporting delay)` -/
theorem C04_on_source (ev : Nat → List TagEv) (o0 : Obj) (h : WFR o0) (h0 : absR o0 = Emission.init) (N c : Nat)
    (hs : (clsRE.run ev o0 N).status = .repaired) (hc : (clsRE.run ev o0 N).tagged_by_company = .company c) :
    ∃ T : Nat, T < N ∧ a (parR false o0) ≤ T ∧ (clsRE.run ev o0 N).init_detect_date = some (T : Int) ∧
      (∃ e rest, ev T = e :: rest ∧ e.company = c ∧
        (clsRE.run ev o0 N).repair_date = some ((T : Int) + atLeastOne (o0.repair_delay + e.trd))) ∧
      (∀ t : Nat, t < T → a (parR false o0) ≤ t → ev t = []) := by
  have ho := RE_run ev o0 h h0 N
  have key := C04_repair_needs_tag (parR false o0) rfl ev N c (by rw [← ho]; exact hs) (by rw [← ho]; exact hc)
  rwa [← ho] at key

end LdarModel.EmissionOnSource
