import LdarModel.Lemmas.FollowUp
/-
C09 — follow-up surveys happen only at flagged sites, per the screening work practice.

Model: `Model/FollowUp.lean`.  `run1 p cap ops` is one screening method bound to the follow-up
method, `runSys ps cap ops` any number of screening methods bound to the *same* follow-up method
(program.py hands each SiteLevelMethod the follow-up schedule object of its follow-up method).
Every theorem is for every parameter set, daily follow-up capacity `cap`, every history `ops`
(screenings, daily updates, follow-up days with arbitrary survey outcomes, tagging surveys of other
methods) of any length.  Ghost fields of the state (`evs`, `released`, `flags`, `done`, `dropped`,
`visits`) record what happened.

Known findings (the full statement is false of the code as it stands):
  F13  two screening methods on one follow-up method: the in-queue flags are shared, the candidate
       pools are not -> the same site is queued twice            (`C09_counterexample`)
  F17  the stale check is made only when a record is released: a candidate already pooled (or a
       request already queued) survives a later tagging survey   (`C09_stale_counterexample`)
-/
namespace LdarModel.FollowUp

/-! ### the property at full strength -/

/-- update / follow-up days never go backwards (per screening method); executable -/
def wellDatedSys (ps : List Params) (cap : Nat) : Sys → List Op → Bool
  | _, [] => true
  | sy, op :: t =>
    (match op with
     | .update i d => match sy.ms[i]? with
                      | some m => decide (m.today ≤ d)
                      | none => true
     | .fuDay d _ => sy.ms.all (fun m => decide (m.today ≤ d))
     | _ => true) && wellDatedSys ps cap (stepSys ps cap sy op) t

def C09_statement : Prop :=
  ∀ (ps : List Params) (cap : Nat) (ops : List Op), wellDatedSys ps cap (initSys ps) ops = true →
    -- at most one follow-up request per site is outstanding; each flag leads to at most one survey
    (∀ s, outstanding (runSys ps cap ops).sh.queue s ≤ 1) ∧
    (∀ s, (runSys ps cap ops).sh.done s ≤ (runSys ps cap ops).sh.flags s) ∧
    -- every flag stems from released detections of that site whose filtered rate reaches the
    -- threshold / instant threshold, never before the reporting delay (+ delay on the pool route)
    (∀ (i : Nat) (p : Params) (m : MState), ps[i]? = some p → (runSys ps cap ops).ms[i]? = some m →
        ∀ f ∈ m.evs, GoodFlag p m.released m.today f) ∧
    -- screenings made before the site's latest tagging survey are discarded
    (∀ (i : Nat) (m : MState), (runSys ps cap ops).ms[i]? = some m → ∀ f ∈ m.evs, f.tagAtFlag ≤ f.recDate) ∧
    (∀ v ∈ (runSys ps cap ops).sh.visits, v.outcome ≠ .unattended → v.tagBefore ≤ v.recDate)

/-! ### one screening method: what is proved for every history -/

/-- at most one outstanding request per site: a site is in the queue exactly once iff its in-queue
flag is set, in the candidate pool exactly once iff its in-pool flag is set, never both; the flag
counter equals completed + withdrawn + outstanding, so each flag yields at most one survey -/
theorem one_outstanding (p : Params) (cap : Nat) (ops : List Op1) (s : Nat) :
    outstanding (run1 p cap ops).sh.queue s = (if (run1 p cap ops).sh.inQueue s then 1 else 0) ∧
    cnt (run1 p cap ops).m.pool s = (if (run1 p cap ops).m.inPool s then 1 else 0) ∧
    ((run1 p cap ops).m.inPool s = true → (run1 p cap ops).sh.inQueue s = false) ∧
    (run1 p cap ops).sh.flags s = (run1 p cap ops).sh.done s + (run1 p cap ops).sh.dropped s
        + (if (run1 p cap ops).sh.inQueue s then 1 else 0) ∧
    (run1 p cap ops).sh.done s ≤ (run1 p cap ops).sh.flags s ∧
    (run1 p cap ops).sh.err = false := by
  have h := run1_invA p cap ops
  refine ⟨h.queueCnt s, h.poolCnt s, h.excl s, h.counters s, ?_, h.noErr⟩
  have := h.counters s
  omega

/-- `followUpDone`: a completed follow-up survey clears the site's flag and stamps the site -/
theorem followUpDone_clears (d : Int) (outs : Nat → Outcome) (sh : Shared) (pl : Plan)
    (h : outs pl.site = .complete) :
    (applyOutcome d outs sh pl).inQueue pl.site = false ∧
    (applyOutcome d outs sh pl).latestTag pl.site = d ∧
    (applyOutcome d outs sh pl).done pl.site = sh.done pl.site + 1 := by
  unfold applyOutcome
  simp [h, setI, setB_apply, bump_apply]

/-- the flag counter counts the flag events: completed follow-up surveys of a site never exceed the
number of times a screening method flagged it -/
theorem each_flag_at_most_one_followup (p : Params) (cap : Nat) (ops : List Op1)
    (hw : WellDated p cap {} ops) (s : Nat) :
    (run1 p cap ops).sh.done s ≤ evCount (run1 p cap ops).m.evs s := by
  have h1 := (run1_invA p cap ops).counters s
  have h2 := (run1_invD p cap ops hw).flagsEq s
  omega

/-- every flag event (every insertion of a new request into the follow-up queue) stems from
released detection records of that site, its rate is the *redundancy-filtered* rate of exactly those
detections (`filt`: recent / max / average; rolling means over the small / large window for
stationary screening, 0 for a planner with a single detection), and that filtered rate reached the
instant threshold (instant route) or the follow-up threshold / rolling-window thresholds (pool route) -/
theorem queued_implies_flagged (p : Params) (cap : Nat) (ops : List Op1) (hw : WellDated p cap {} ops) :
    ∀ f ∈ (run1 p cap ops).m.evs,
      f.rates ≠ [] ∧
      (∀ r ∈ f.rates, ∃ rc ∈ (run1 p cap ops).m.released,
          rc.site = f.site ∧ rc.rate = r ∧ rc.date + p.rd ≤ f.day) ∧
      (p.stationary = false → f.rate = filt p.filter f.rates) ∧
      (p.stationary = true →
          (f.rates.length = 1 ∧ f.rate = 0 ∧ f.rateLong = 0) ∨
          (2 ≤ f.rates.length ∧ f.rate = meanLast p.sw f.rates ∧ f.rateLong = meanLast p.lw f.rates)) ∧
      (f.route = .instant → ∃ t, p.inst = some t ∧ t ≤ f.rate) ∧
      (f.route = .pool → p.stationary = false → p.thr ≤ filt p.filter f.rates) ∧
      (f.route = .pool → p.stationary = true →
          p.sthr ≤ f.rate ∨ (p.lthr ≠ 0 ∧ f.rateLong ≠ 0 ∧ p.lthr ≤ f.rateLong)) := by
  intro f hf
  obtain ⟨_, _, h3, h4, h5, h6⟩ := (run1_invC (S := True) p cap ops hw).evsOK f hf
  unfold RateOK at h6
  refine ⟨h3, h4, ?_, ?_, ?_, ?_, ?_⟩
  · intro hs; simpa [hs] using h6
  · intro hs; simpa [hs] using h6
  · exact fun hr => (h5.instant hr).1
  · intro hr hs
    have h7 : f.rate = filt p.filter f.rates := by simpa [hs] using h6
    rw [← h7]; simpa [hs] using (h5.pool hr).2
  · exact fun hr hs => by simpa [hs] using (h5.pool hr).2

/-- every request waiting in the follow-up queue belongs to a flagged site (flag set, flagged at
least once) and stems from released detections of that site -/
theorem queue_entries_flagged (p : Params) (cap : Nat) (ops : List Op1) (hw : WellDated p cap {} ops) :
    ∀ e ∈ (run1 p cap ops).sh.queue,
      (run1 p cap ops).sh.inQueue e.plan.site = true ∧
      1 ≤ evCount (run1 p cap ops).m.evs e.plan.site ∧
      e.plan.rates ≠ [] ∧
      (∀ r ∈ e.plan.rates, ∃ rc ∈ (run1 p cap ops).m.released, rc.site = e.plan.site ∧ rc.rate = r) := by
  intro e he
  have hA := run1_invA p cap ops
  have hin := hA.flagged_of_mem he
  have hc := hA.counters e.plan.site
  have hd := (run1_invD p cap ops hw).flagsEq e.plan.site
  obtain ⟨h1, h2, _⟩ := (run1_invC (S := True) p cap ops hw).queueOK trivial e he
  rw [hin] at hc
  simp only [b2n_true] at hc
  exact ⟨hin, by omega, h1, h2⟩

/-- no flag before the reporting delay: the newest detection behind a flag was made at least
`reportingDelay` days earlier (exactly that on the instant route); on the pool route at least
`delay` days have passed since the first candidate of the decision; follow-up visits likewise -/
theorem not_before_reporting_delay (p : Params) (cap : Nat) (ops : List Op1) (hw : WellDated p cap {} ops) :
    (∀ f ∈ (run1 p cap ops).m.evs,
      f.recDate + p.rd ≤ f.day ∧
      (f.route = .instant → f.day = f.recDate + p.rd) ∧
      (f.route = .pool → f.first + p.delay ≤ f.day)) ∧
    (∀ v ∈ (run1 p cap ops).sh.visits, v.recDate + p.rd ≤ v.day) := by
  refine ⟨?_, (run1_invD p cap ops hw).visitsOK⟩
  intro f hf
  obtain ⟨h1, _, _, _, h5, _⟩ := (run1_invC (S := True) p cap ops hw).evsOK f hf
  exact ⟨h1, fun hr => (h5.instant hr).2.1, fun hr => (h5.pool hr).1⟩

/-! #### proportion -/

/-- does the flagging loop flag a kept candidate?  (A mobile method always does.) -/
def passes (p : Params) (pl : Plan) : Bool := !p.stationary || (followShort p pl || followLong p pl)

theorem flagOne_evs (p : Params) (d first : Int) (st : St) (pl : Plan) :
    (flagOne p d first st pl).m.evs = st.m.evs ++
      ([pl].filter (passes p)).map (fun pl => mkEv pl .pool d first (st.sh.latestTag pl.site)) ∧
    (flagOne p d first st pl).m.nflags = st.m.nflags + ([pl].filter (passes p)).length ∧
    (flagOne p d first st pl).sh.latestTag = st.sh.latestTag := by
  unfold flagOne
  split
  · next hc =>
    have : passes p pl = false := by simpa [passes] using hc
    simp [this]
  · next hc =>
    have : passes p pl = true := (Bool.eq_false_or_eq_true _).resolve_right fun h =>
      hc (by simpa [passes] using h)
    simp [this, flagSite, enqueue]

theorem foldFlag_evs (p : Params) (d first : Int) (cs : List Plan) (st : St) :
    (cs.foldl (flagOne p d first) st).m.evs = st.m.evs ++
      (cs.filter (passes p)).map (fun pl => mkEv pl .pool d first (st.sh.latestTag pl.site)) ∧
    (cs.foldl (flagOne p d first) st).m.nflags = st.m.nflags + (cs.filter (passes p)).length ∧
    (cs.foldl (flagOne p d first) st).sh.latestTag = st.sh.latestTag := by
  induction cs generalizing st with
  | nil => simp
  | cons pl t ih =>
    obtain ⟨h1, h2, h3⟩ := ih (flagOne p d first st pl)
    obtain ⟨e1, e2, e3⟩ := flagOne_evs p d first st pl
    rw [List.foldl_cons, h1, h2, h3, e1, e2, e3, ← List.singleton_append (l := t), List.filter_append]
    simp [Nat.add_assoc]

theorem passes_of_mobile {p : Params} (h : p.stationary = false) (cs : List Plan) :
    cs.filter (passes p) = cs :=
  List.filter_eq_self.mpr fun pl _ => by simp [passes, h]

/-- `_filter_candidates_by_proportion` + the flagging loop: a decision keeps `k = min ⌈p·n⌉ |pool|`
candidates — `n = |pool|` (threshold first) or `n = c`, the counter of non-zero sub-threshold
detections (proportion first) — they are the *prefix* of the pool, the pool is sorted by decreasing
rate so every kept candidate is at least as large as every rejected one, only kept candidates are
flagged (all of them for mobile screening), and the rejected ones leave the pool un-flagged -/
theorem proportion (p : Params) (d first : Int) (st : St) (hs : Sorted st.m.pool) (hA : InvA st) :
    let n := st.m.pool.length
    let k := keepCount p n st.m.count
    let st' := decideNow p d first st
    (k = if p.thrFirst then (((n : Int) : Rat) * p.prop).ceil.toNat
         else min (((st.m.count : Int) : Rat) * p.prop).ceil.toNat n) ∧
    (∀ x ∈ st.m.pool.take k, ∀ y ∈ st.m.pool.drop k, y.rate ≤ x.rate) ∧
    (∀ f ∈ st'.m.evs, f ∈ st.m.evs ∨
        ∃ pl ∈ st.m.pool.take k, f = mkEv pl .pool d first (st.sh.latestTag pl.site)) ∧
    st'.m.nflags ≤ st.m.nflags + min k n ∧
    (p.stationary = false →
        st'.m.evs = st.m.evs ++ (st.m.pool.take k).map (fun pl => mkEv pl .pool d first (st.sh.latestTag pl.site))
        ∧ st'.m.nflags = st.m.nflags + min k n) ∧
    (∀ y ∈ st.m.pool.drop k, st'.m.inPool y.site = false ∧ ∀ x ∈ st'.m.pool, x.site ≠ y.site) := by
  intro n k st'
  obtain ⟨hevs, hn, _⟩ := foldFlag_evs p d first (st.m.pool.take k) (decideStart p st)
  have hlen := List.length_filter_le (passes p) (st.m.pool.take k)
  rw [List.length_take] at hlen
  refine ⟨rfl, fun x hx y hy => ?_, fun f hf => ?_,
    Nat.le_trans (Nat.le_of_eq hn) (Nat.add_le_add_left hlen _), fun hmob => ?_, fun y hy => ?_⟩
  · have := hs
    rw [Sorted, ← List.take_append_drop k st.m.pool, List.pairwise_append] at this
    exact this.2.2 x hx y hy
  · rcases List.mem_append.mp (hevs ▸ hf) with hf | hf
    · exact .inl hf
    · obtain ⟨pl, hpl, rfl⟩ := List.mem_map.mp hf
      exact .inr ⟨pl, (List.mem_filter.mp hpl).1, rfl⟩
  · rw [passes_of_mobile hmob] at hevs hn
    exact ⟨hevs, hn.trans (by rw [List.length_take]; rfl)⟩
  · -- the rejected candidate was un-flagged before the loop, and the loop sets no in-pool flag
    have hin : (decideNow p d first st).m.inPool y.site = false := by
      refine foldl_inv (P := fun s : St => s.m.inPool y.site = false) (fun s pl _ hs => ?_) ?_
      · unfold flagOne
        split
        · exact hs
        · simp only [flagSite, setB_apply]
          split
          · rfl
          · exact hs
      · simp only [unflag_spec]
        exact if_neg (Nat.pos_iff_ne_zero.mp (cnt_pos_iff.mpr ⟨y, hy, rfl⟩))
    refine ⟨hin, fun x hx hxy => ?_⟩
    have h1 := (decideNow_invA p d first st hA).poolCnt y.site
    rw [hin, b2n_false] at h1
    exact Nat.ne_of_gt (cnt_pos_iff.mpr ⟨x, hx, hxy⟩) h1

/-- the state of the screening method on day `d` after the released records have been processed and
before the flagging decision (`dailyUpdate p d st = updateCandidates p d (midState p d st)` by `rfl`) -/
def midState (p : Params) (d : Int) (st : St) : St :=
  (st.m.records.filter (fun r => r.date = d - p.rd)).foldl (processRec p d (d - p.rd))
    { st with m := { st.m with records := st.m.records.filter (fun r => r.date ≠ d - p.rd), today := d, nflags := 0 } }

theorem dailyUpdate_eq_mid (p : Params) (d : Int) (st : St) :
    dailyUpdate p d st = updateCandidates p d (midState p d st) := rfl

/-- `proportion` for every history: on every day `d` after any history, the sites flagged through
the pool that day are among the first `k = keepCount …` candidates of the pool as it stands after
the day's records (sorted by decreasing rate: every kept candidate is at least as large as every
rejected one), at most `min k |pool|` of them, and only if the delay since the first candidate has
passed; otherwise no flag event is added that day by the decision -/
theorem proportion_history (p : Params) (cap : Nat) (ops : List Op1) (d : Int) :
    let mid := midState p d (run1 p cap ops)
    let k := keepCount p mid.m.pool.length mid.m.count
    let st' := dailyUpdate p d (run1 p cap ops)
    (∀ x ∈ mid.m.pool.take k, ∀ y ∈ mid.m.pool.drop k, y.rate ≤ x.rate) ∧
    (∀ f ∈ st'.m.evs, f ∈ mid.m.evs ∨ ∃ first, first + p.delay ≤ d ∧
        ∃ pl ∈ mid.m.pool.take k, f = mkEv pl .pool d first (mid.sh.latestTag pl.site)) ∧
    st'.m.nflags ≤ min k mid.m.pool.length := by
  intro mid k st'
  have hs : Sorted mid.m.pool := by
    refine foldl_inv (P := fun s => Sorted s.m.pool) (fun s r _ => processRec_sorted p d (d - p.rd) s r) ?_
    exact run1_sorted p cap ops
  have hA : InvA mid :=
    foldl_inv (fun s r _ => processRec_invA p d (d - p.rd) s r) ((run1_invA p cap ops).of_eq rfl rfl rfl)
  have hn : mid.m.nflags = 0 :=
    foldl_inv (P := fun s => s.m.nflags = 0)
      (fun s r _ h => (processRec_frame p d (d - p.rd) s r).2.1.trans h) rfl
  refine ⟨(proportion p d d mid hs hA).2.1, ?_⟩
  show (∀ f ∈ (updateCandidates p d mid).m.evs, _) ∧ (updateCandidates p d mid).m.nflags ≤ _
  rcases updateCandidates_cases p d mid with ⟨first, hdue, _, e⟩ | ⟨fc, _, e⟩ <;> rw [e]
  · obtain ⟨_, _, h3, h4, _, _⟩ := proportion p d first mid hs hA
    exact ⟨fun f hf => (h3 f hf).imp_right fun h => ⟨first, hdue, h⟩, by simpa [hn] using h4⟩
  · exact ⟨fun f hf => .inl hf, by simp [hn]⟩

/-- never more than the configured proportion of all pooled detections: with the proportion applied
first, the number kept is at most `⌈p · (c + |pool|)⌉` -/
theorem proportion_upper_bound (p : Params) (n c : Nat) (hp : 0 ≤ p.prop) (ht : p.thrFirst = false) :
    keepCount p n c ≤ n ∧
    (keepCount p n c : Int) ≤ ((((c + n : Nat) : Int) : Rat) * p.prop).ceil := by
  -- `⌈·⌉` is monotone, so `0 ≤ ⌈c·p⌉ ≤ ⌈(c+n)·p⌉`
  have mono : ∀ {x y : Rat}, x ≤ y → x.ceil ≤ y.ceil := fun h =>
    Rat.ceil_le_iff.mpr (Rat.le_trans h Rat.le_ceil)
  have hc : ((c : Int) : Rat) ≤ (((c + n : Nat) : Int) : Rat) := by
    rw [Rat.intCast_le_intCast]; omega
  have h0 : ((0 : Int) : Rat) ≤ ((c : Int) : Rat) := by rw [Rat.intCast_le_intCast]; omega
  have h1 := mono (Rat.mul_nonneg h0 hp)
  have h2 := mono (Rat.mul_le_mul_of_nonneg_right hc hp)
  unfold keepCount
  simp only [ht, Bool.false_eq_true, if_false]
  refine ⟨Nat.min_le_right _ _, ?_⟩
  rw [show (0 : Rat).ceil = 0 from rfl] at h1
  omega

/-- with the threshold applied first the number kept is `min ⌈p·|pool|⌉ |pool|`; never more than the pool -/
theorem proportion_threshold_first (p : Params) (n c : Nat) (ht : p.thrFirst = true) :
    min (keepCount p n c) n = min (((n : Int) : Rat) * p.prop).ceil.toNat n := by
  unfold keepCount; simp [ht]

/-! #### stale screenings -/

/-- the release-time stale check: a record whose survey date lies before the site's latest tagging
survey is discarded without any effect -/
theorem stale_discarded (p : Params) (d dc : Int) (st : St) (r : Rec)
    (h : dc < st.sh.latestTag r.site) : processRec p d dc st r = st := by
  unfold processRec
  have : ¬ st.sh.latestTag r.site ≤ dc := by omega
  simp [this]

/-- hence every flag on the instant route is behind a screening that is not older than the site's
latest tagging survey (the pool route is the known finding F17) -/
theorem stale_instant_partial (p : Params) (cap : Nat) (ops : List Op1) (hw : WellDated p cap {} ops) :
    ∀ f ∈ (run1 p cap ops).m.evs, f.route = .instant → f.tagAtFlag ≤ f.recDate :=
  fun f hf => ((run1_invC (S := True) p cap ops hw).evsOK f hf).fresh

/-! #### the follow-up method only works from its queue -/

theorem foldOutcome_visits (d : Int) (outs : Nat → Outcome) (cs : List Plan) (sh : Shared) :
    ∀ v ∈ (cs.foldl (applyOutcome d outs) sh).visits,
      v ∈ sh.visits ∨ ∃ pl ∈ cs, v.site = pl.site ∧ v.recDate = pl.latest ∧ v.day = d := by
  refine foldl_inv (P := fun sh' : Shared => ∀ v ∈ sh'.visits,
      v ∈ sh.visits ∨ ∃ pl ∈ cs, v.site = pl.site ∧ v.recDate = pl.latest ∧ v.day = d)
    (fun sh' pl hpl h v hv => ?_) fun v hv => .inl hv
  have hvis : (applyOutcome d outs sh' pl).visits
      = sh'.visits ++ [Visit.mk pl.site pl.latest (sh'.latestTag pl.site) d (outs pl.site)] := by
    unfold applyOutcome; simp only []; split <;> rfl
  rcases List.mem_append.mp (hvis ▸ hv) with hv | hv
  · exact h v hv
  · exact .inr ⟨pl, hpl, by simp [List.mem_singleton.mp hv]⟩

/-- every site the follow-up method works at on a day was taken from the head of its queue (at most
`cap` requests), and — one screening method — such a site is flagged -/
theorem followup_only_from_queue (p : Params) (cap : Nat) (ops : List Op1) (d : Int)
    (outs : Nat → Outcome) :
    ∀ v ∈ (followUpDay cap d outs (run1 p cap ops).sh).visits,
      v ∈ (run1 p cap ops).sh.visits ∨
      (∃ e ∈ (run1 p cap ops).sh.queue.take cap, e.plan.site = v.site ∧ e.plan.latest = v.recDate) ∧
      (run1 p cap ops).sh.inQueue v.site = true := by
  intro v hv
  have hA := run1_invA p cap ops
  unfold followUpDay at hv
  rw [planned_eq cap _ hA.outstanding_le] at hv
  rcases foldOutcome_visits d outs _ _ v hv with h | ⟨pl, hpl, h1, h2, _⟩
  · exact Or.inl h
  · right
    rw [List.mem_map] at hpl
    obtain ⟨e, he, rfl⟩ := hpl
    exact ⟨⟨e, he, h1.symm, h2.symm⟩, h1 ▸ hA.flagged_of_mem (List.mem_of_mem_take he)⟩

/-! ### several screening methods on one follow-up method -/

/-- an operation of the system as an operation of the single-method machine (operations addressed to
a screening method other than number 0 do nothing in a one-method system) -/
def lower : Op → Option Op1
  | .screen 0 s r d => some (.screen s r d)
  | .screen (_ + 1) _ _ _ => none
  | .update 0 d => some (.update d)
  | .update (_ + 1) _ => none
  | .fuDay d outs => some (.fuDay d outs)
  | .tag s d => some (.tag s d)

theorem stepSys_single (p : Params) (cap : Nat) (st : St) (op : Op) :
    stepSys [p] cap { ms := [st.m], sh := st.sh } op =
      match lower op with
      | some o1 => { ms := [(step1 p cap st o1).m], sh := (step1 p cap st o1).sh }
      | none => { ms := [st.m], sh := st.sh } := by
  cases op with
  | screen i s r d => cases i <;> simp [stepSys, lower, step1]
  | update i d => cases i <;> simp [stepSys, lower, step1]
  | fuDay d outs => simp [stepSys, lower, step1]
  | tag s d => simp [stepSys, lower, step1]

/-- a system with exactly one screening method is the single-method machine -/
theorem foldl_single (p : Params) (cap : Nat) (ops : List Op) (st : St) :
    ops.foldl (stepSys [p] cap) { ms := [st.m], sh := st.sh } =
      { ms := [((ops.filterMap lower).foldl (step1 p cap) st).m],
        sh := ((ops.filterMap lower).foldl (step1 p cap) st).sh } ∧
    (wellDatedSys [p] cap { ms := [st.m], sh := st.sh } ops = true →
      WellDated p cap st (ops.filterMap lower)) := by
  induction ops generalizing st with
  | nil => exact ⟨rfl, fun _ => rfl⟩
  | cons op ops ih =>
    have hs := stepSys_single p cap st op
    simp only [List.foldl_cons, wellDatedSys, Bool.and_eq_true]
    cases hl : lower op with
    | none =>
      rw [hl] at hs
      rw [hs]
      simp only [List.filterMap_cons, hl]
      exact ⟨(ih st).1, fun h => (ih st).2 h.2⟩
    | some o1 =>
      rw [hl] at hs
      rw [hs]
      simp only [List.filterMap_cons, hl, List.foldl_cons]
      refine ⟨(ih _).1, fun h => wellDated_cons.mpr ⟨?_, (ih _).2 h.2⟩⟩
      -- the first operation is dated for the single method as it is for the system
      have h1 := h.1
      cases op with
      | screen i s r d =>
        cases i with
        | zero => obtain rfl := Option.some.inj hl; trivial
        | succ i => cases hl
      | update i d =>
        cases i with
        | zero => obtain rfl := Option.some.inj hl; simpa [opDated] using h1
        | succ i => cases hl
      | fuDay d outs => obtain rfl := Option.some.inj hl; simpa [opDated] using h1
      | tag s d => obtain rfl := Option.some.inj hl; trivial

theorem runSys_single (p : Params) (cap : Nat) (ops : List Op) :
    runSys [p] cap ops = { ms := [(run1 p cap (ops.filterMap lower)).m],
                           sh := (run1 p cap (ops.filterMap lower)).sh } ∧
    (wellDatedSys [p] cap (initSys [p]) ops = true → WellDated p cap {} (ops.filterMap lower)) :=
  foldl_single p cap ops {}

/-- C09 for a program with a single screening method on its follow-up method: every clause of the
statement except the pool-route part of the stale clause (F17), for every history -/
theorem C09_partial (p : Params) (cap : Nat) (ops : List Op)
    (hw : wellDatedSys [p] cap (initSys [p]) ops = true) :
    (∀ s, outstanding (runSys [p] cap ops).sh.queue s ≤ 1) ∧
    (∀ s, (runSys [p] cap ops).sh.done s ≤ (runSys [p] cap ops).sh.flags s) ∧
    (∀ (i : Nat) (q : Params) (m : MState), [p][i]? = some q → (runSys [p] cap ops).ms[i]? = some m →
        ∀ f ∈ m.evs, GoodFlag q m.released m.today f) ∧
    (∀ (i : Nat) (m : MState), (runSys [p] cap ops).ms[i]? = some m →
        ∀ f ∈ m.evs, f.route = .instant → f.tagAtFlag ≤ f.recDate) := by
  obtain ⟨e, hwd⟩ := runSys_single p cap ops
  have hA := run1_invA p cap (ops.filterMap lower)
  have hC := run1_invC (S := True) p cap _ (hwd hw)
  rw [e]
  dsimp only
  refine ⟨fun s => ?_, fun s => ?_, fun i q m hq hmi f hf => ?_, fun i m hmi f hf hr => ?_⟩
  · exact hA.outstanding_le s
  · have := hA.counters s; omega
  · obtain ⟨rfl, rfl⟩ : i = 0 ∧ p = q := by simpa [List.getElem?_singleton] using hq
    obtain rfl : _ = m := by simpa using hmi
    exact hC.evsOK f hf
  · obtain ⟨_, rfl⟩ : i = 0 ∧ _ = m := by simpa [List.getElem?_singleton] using hmi
    exact (hC.evsOK f hf).fresh hr

/-! #### any number of screening methods: what F13 does not break -/

/-- per screening method, the provenance / date / routing invariant without the clause about the
shared queue -/
def SysInvC (ps : List Params) (sy : Sys) : Prop :=
  ∀ (i : Nat) (p : Params) (m : MState), ps[i]? = some p → sy.ms[i]? = some m →
    InvC False p { m := m, sh := sy.sh }

theorem getElem?_set_some {α} {l : List α} {i j : Nat} {a b : α} (h : (l.set i a)[j]? = some b) :
    i = j ∧ a = b ∨ i ≠ j ∧ l[j]? = some b := by
  rw [List.getElem?_set] at h
  split at h
  · split at h <;> simp_all
  · next hij => exact .inr ⟨hij, h⟩

/-- an update acts on the screening method it addresses as `dailyUpdate`; towards every other method
an operation changes at most the shared follow-up schedule, of which `InvC False` says nothing -/
theorem stepSys_sysInvC (ps : List Params) (cap : Nat) (sy : Sys) (op : Op) (h : SysInvC ps sy)
    (hw : ∀ i d m, op = .update i d → sy.ms[i]? = some m → m.today ≤ d) :
    SysInvC ps (stepSys ps cap sy op) := by
  intro j q mj hq hmj
  have other : ∀ sh', sy.ms[j]? = some mj → InvC False q { m := mj, sh := sh' } :=
    fun sh' hmj => (h j q mj hq hmj).setShared sh' fun hS => hS.elim
  cases op with
  | screen i s r d =>
    cases hmi : sy.ms[i]? with
    | none => simp only [stepSys, hmi] at hmj ⊢; exact other _ hmj
    | some m =>
      simp only [stepSys, hmi] at hmj ⊢
      rcases getElem?_set_some hmj with ⟨rfl, rfl⟩ | ⟨_, hmj⟩
      · have := h i q m hq hmi
        exact ⟨this.poolOK, fun hS => hS.elim, this.poolThr, this.evsOK, this.relOK, this.firstOK⟩
      · exact other _ hmj
  | update i d =>
    cases hpi : ps[i]? with
    | none => simp only [stepSys, hpi] at hmj ⊢; exact other _ hmj
    | some p =>
      cases hmi : sy.ms[i]? with
      | none => simp only [stepSys, hpi, hmi] at hmj ⊢; exact other _ hmj
      | some m =>
        simp only [stepSys, hpi, hmi] at hmj ⊢
        rcases getElem?_set_some hmj with ⟨rfl, rfl⟩ | ⟨_, hmj⟩
        · obtain rfl : p = q := Option.some.inj (hpi.symm.trans hq)
          exact dailyUpdate_invC p d _ (h i p m hpi hmi) (hw i d m rfl hmi)
        · exact other _ hmj
  | fuDay d outs => exact other _ hmj
  | tag s d => exact other _ hmj

theorem foldl_sysInvC (ps : List Params) (cap : Nat) (ops : List Op) (sy : Sys) (h : SysInvC ps sy)
    (hw : wellDatedSys ps cap sy ops = true) : SysInvC ps (ops.foldl (stepSys ps cap) sy) := by
  induction ops generalizing sy with
  | nil => exact h
  | cons op t ih =>
    unfold wellDatedSys at hw
    rw [Bool.and_eq_true] at hw
    refine ih _ (stepSys_sysInvC ps cap sy op h fun i d m hop hmi => ?_) hw.2
    subst hop
    simpa [hmi] using hw.1

/-- C09 for ANY number of screening methods bound to one follow-up method — the clauses the known
finding F13 does not break: every flag event of every method stems from released detections of that
site by that method, its rate is the redundancy-filtered rate of those detections and reached the
(instant) threshold, never before the reporting delay (+ delay on the pool route), and a flag on the
instant route never rests on a screening older than the site's latest tagging survey -/
theorem C09_flags_any_methods (ps : List Params) (cap : Nat) (ops : List Op)
    (hw : wellDatedSys ps cap (initSys ps) ops = true) :
    ∀ (i : Nat) (p : Params) (m : MState), ps[i]? = some p → (runSys ps cap ops).ms[i]? = some m →
      ∀ f ∈ m.evs, GoodFlag p m.released m.today f ∧ (f.route = .instant → f.tagAtFlag ≤ f.recDate) := by
  have h0 : SysInvC ps (initSys ps) := by
    intro i p m _ hm
    obtain ⟨_, _, rfl⟩ := Option.map_eq_some_iff.mp (List.getElem?_map.symm.trans hm)
    exact invC_init False p
  have h := foldl_sysInvC ps cap ops _ h0 hw
  intro i p m hp hm f hf
  exact ⟨(h i p m hp hm).evsOK f hf, ((h i p m hp hm).evsOK f hf).fresh⟩

/-- ... and each flag still leads to at most one follow-up survey: for any number of screening
methods and any history, completed + withdrawn + outstanding requests of a site never exceed the
number of times the site was flagged (the duplicate requests of F13 are each backed by a flag) -/
theorem C09_done_le_flags_any_methods (ps : List Params) (cap : Nat) (ops : List Op) (s : Nat) :
    (runSys ps cap ops).sh.done s + (runSys ps cap ops).sh.dropped s
      + outstanding (runSys ps cap ops).sh.queue s ≤ (runSys ps cap ops).sh.flags s ∧
    (runSys ps cap ops).sh.done s ≤ (runSys ps cap ops).sh.flags s := by
  have key : K (runSys ps cap ops).sh := by
    refine foldl_inv (P := fun sy : Sys => K sy.sh) (fun sy op _ h => ?_)
      (fun s => by simp [initSys, outstanding])
    cases op with
    | screen i s r d => cases hm : sy.ms[i]? <;> simpa [stepSys, hm] using h
    | update i d =>
      cases hp : ps[i]? with
      | none => simpa [stepSys, hp] using h
      | some p =>
        cases hm : sy.ms[i]? with
        | none => simpa [stepSys, hp, hm] using h
        | some m => simpa [stepSys, hp, hm] using dailyUpdate_K p d { m := m, sh := sy.sh } h
    | fuDay d outs => exact followUpDay_K cap d outs sy.sh h
    | tag s d => exact h
  have := key s
  exact ⟨this, by omega⟩

/-- does the operation belong to screening method `j`? -/
def ownedBy (j : Nat) : Op → Bool
  | .screen i _ _ _ => i == j
  | .update i _ => i == j
  | _ => false

/-- frame: what a screening method owns (candidate pool, in-pool flags, first-candidate date, counter,
detection records, its ghost log) is touched by its own operations only — operations of another
screening method, follow-up days and tagging surveys leave it exactly as it is.  (A code change that
makes e.g. the detection records a class-level container breaks the correspondence of every
two-method and every interleaved history.) -/
theorem methods_independent (ps : List Params) (cap : Nat) (sy : Sys) (op : Op) (j : Nat)
    (h : ownedBy j op = false) : (stepSys ps cap sy op).ms[j]? = sy.ms[j]? := by
  cases op with
  | screen i s r d =>
    have hij : i ≠ j := by simpa [ownedBy] using h
    cases hm : sy.ms[i]? with
    | none => simp [stepSys, hm]
    | some m => simp [stepSys, hm, hij]
  | update i d =>
    have hij : i ≠ j := by simpa [ownedBy] using h
    cases hp : ps[i]? with
    | none => simp [stepSys, hp]
    | some p =>
      cases hm : sy.ms[i]? with
      | none => simp [stepSys, hp, hm]
      | some m => simp [stepSys, hp, hm, hij]
  | fuDay d outs => rfl
  | tag s d => rfl

/-- ... over whole histories: the state of method `j` after any history equals its state after the
sub-history of its own operations as far as other methods' operations are concerned (they can be
dropped one by one from the front of a block that contains none of `j`'s operations) -/
theorem methods_independent_block (ps : List Params) (cap : Nat) (ops : List Op) (sy : Sys) (j : Nat)
    (h : ∀ op ∈ ops, ownedBy j op = false) : (ops.foldl (stepSys ps cap) sy).ms[j]? = sy.ms[j]? := by
  induction ops generalizing sy with
  | nil => rfl
  | cons op t ih =>
    simp only [List.foldl_cons]
    rw [ih _ (fun x hx => h x (by simp [hx])), methods_independent ps cap sy op j (h op (by simp))]

/-! ### counterexamples (known findings) -/

/-- two mobile screening methods (threshold 4, delay 1, no reporting delay) on one follow-up method -/
def cexParams : Params := { thr := 4, delay := 1, prop := 1 }

/-- both screen site 0 on day 0, both update on days 0 and 1 -/
def cexOps : List Op :=
  [.screen 0 0 8 0, .update 0 0, .screen 1 0 6 0, .update 1 0, .update 0 1, .update 1 1]

/-- F13: the full statement is false — with two screening methods bound to the same follow-up method
the site sits in both candidate pools (the in-pool flags are per method), the first decision queues
it and sets the shared in-queue flag, the second decision queues it again: two outstanding requests
for one site. -/
theorem C09_counterexample : ¬ C09_statement := by
  intro h
  unfold C09_statement at h
  have := (h [cexParams, cexParams] 1 cexOps (by decide +kernel)).1 0
  revert this
  decide +kernel

/-- one mobile screening method, delay 3: site 0 screened on day 0 (pooled on day 0), another
tagging method surveys the site on day 1, the decision of day 3 flags it all the same -/
def staleOps : List Op1 :=
  [.screen 0 8 0, .update 0, .tag 0 1, .update 1, .update 2, .update 3]

def staleParams : Params := { thr := 4, delay := 3, prop := 1 }

/-- F17: the stale clause at full strength is false even for a single screening method — a
candidate already pooled is not withdrawn by a later tagging survey of the site (the check is made
only when the record is released): the flag of day 3 rests on a screening of day 0, the site's
latest tagging survey is of day 1. -/
theorem C09_stale_counterexample :
    ¬ (∀ (p : Params) (cap : Nat) (ops : List Op1), WellDated p cap {} ops →
        ∀ f ∈ (run1 p cap ops).m.evs, f.tagAtFlag ≤ f.recDate) := by
  intro h
  have := h staleParams 1 staleOps (by decide +kernel)
  revert this
  decide +kernel

/-! ### non-vacuity -/

/-- a history satisfying the hypotheses of the theorems in which things happen: site 0 is flagged
through the pool (proportion 1/2 of two candidates keeps the larger one), site 2 through the
instant threshold, the follow-up method completes site 2 and is interrupted at site 0 -/
example :
    let p : Params := { thr := 4, delay := 1, prop := 1/2, inst := some 20, rd := 1 }
    let ops : List Op1 :=
      [.screen 0 8 0, .screen 1 6 0, .screen 2 32 0, .update 0, .update 1,
       .fuDay 1 (fun s => if s = 2 then .complete else .unattended),
       .update 2, .fuDay 2 (fun _ => .inProgress)]
    WellDated p 1 {} ops ∧
    (run1 p 1 ops).m.evs.map (fun f => (f.site, f.route, f.recDate, f.day)) =
      [(2, Route.instant, 0, 1), (0, Route.pool, 0, 2)] ∧
    (run1 p 1 ops).sh.queue.map (fun e => (e.cls, e.plan.site)) = [(1, 0)] ∧
    (run1 p 1 ops).sh.done 2 = 1 ∧ (run1 p 1 ops).m.inPool 1 = false := by
  decide +kernel

example : wellDatedSys [cexParams, cexParams] 1 (initSys [cexParams, cexParams]) cexOps = true ∧
    outstanding (runSys [cexParams, cexParams] 1 cexOps).sh.queue 0 = 2 := by
  decide +kernel

end LdarModel.FollowUp
