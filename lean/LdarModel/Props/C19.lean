import LdarModel.Lemmas.Holder
/-
C19 — sensitivity sets differ from the base case exactly in the varied parameters.

Model: `Model/Holder.lean` (`updNested`, `alterD`, `unpack*`, `vary`).  A holder is its dictionary
plus the sub-parameter mapping; `touched u p` = path `p` lies on or below a leaf path of `u`;
`single k x` = the one-entry dictionary `{k: x}` an individual `alter_parameter(k, x)` call applies.
`varsOK` / `seqOK` / `flatD` / `dodB` are the decidable well-formedness hypotheses (listed values
sit where the base has parameters, plain dictionary entries of high-level holders are flat); the
check evaluates them on every generated case (hypothesis hit rate in the evidence).
`base_not_modified` is a statement about aliasing, which this model (copies are values) cannot
express: it is discharged by the deep-equality oracle on the real objects on every run.
-/
namespace LdarModel.Holder
open LdarModel.Tree

/-- the property at full strength over the model:
(1) frame for virtual-world sets: a base leaf that no applied variation reaches keeps its value;
(2) every set of a methods-level analysis is present in the result under its own name
    `<program>_<i>`, whatever the names of the base programs. -/
def C19_statement : Prop :=
  (∀ (maps : Maps) (base : PH) (sens : Option String) (n : Nat) (vars : KV) (sets : List PH)
      (i : Nat) (s : PH) (p : Path) (v : J),
      vary maps base sens "virtual_world" n vars = .ok sets → sets[i]? = some s →
      vars.wf = true → varsOK (.high maps.vw) n i base.vw vars = true →
      get? p (.obj base.vw) = some v → v.isObj = false →
      (∀ k l x, vars.lookup k = some (.list l) → x ∈ sliceFor n i l →
          touched (.obj (single k x)) p = false) →
      get? p (.obj s.vw) = some v)
  ∧
  (∀ (maps : Maps) (base : PH) (sens : String) (n : Nat) (vars : KV) (s : PH),
      vary maps base (some sens) "methods" n vars = .ok [s] → vars ≠ .nil →
      ∀ i, i < n → (s.programs.lookup (rename sens i)).isSome = true)

/-- `upd_varied`: after `update_nested_dictionary(current, new)` / `_merge_variation` every path on
or below a leaf path of `new` shows what `new` holds there -/
theorem upd_varied (p : Path) (u cur : KV) (hwf : u.wf = true)
    (ht : touched (.obj u) p = true) :
    get? p (.obj (updNested cur u)) = get? p (.obj u) :=
  upd_touched p u cur hwf ht

/-- `upd_frame`: every other leaf of `current` keeps its value and every dictionary stays a
dictionary (nothing is replaced wholesale), provided `new` puts dictionaries only on dictionaries -/
theorem upd_frame_leaf_and_node (p : Path) (u cur : KV) (hwf : u.wf = true)
    (hdd : DictOnDict cur u) (ht : touched (.obj u) p = false) :
    (∀ v, get? p (.obj cur) = some v → v.isObj = false →
        get? p (.obj (updNested cur u)) = some v) ∧
    (∀ ck, get? p (.obj cur) = some (.obj ck) →
        ∃ rk, get? p (.obj (updNested cur u)) = some (.obj rk)) :=
  upd_untouched p u cur hwf hdd ht

/-- non-vacuity: `repairs: {cost: {values: [100.0]}}` keeps `cost.file` and `delay` -/
example :
    updNested (.cons "cost" (.obj (.cons "values" (.list (.cons (.float 2 2) .nil)) (.cons "file" .null .nil)))
               (.cons "delay" (.obj (.cons "values" (.list (.cons (.float 14 0) .nil)) .nil)) .nil))
              (.cons "cost" (.obj (.cons "values" (.list (.cons (.float 1 2) .nil)) .nil)) .nil)
      = .cons "cost" (.obj (.cons "values" (.list (.cons (.float 1 2) .nil)) (.cons "file" .null .nil)))
         (.cons "delay" (.obj (.cons "values" (.list (.cons (.float 14 0) .nil)) .nil)) .nil) := rfl

/-- `alter_is_nested_update`: `holder.alter_parameters(dict)` on any holder kind (generic,
high-level with nested holders) is the nested update of the holder's dictionary, as long as plain
dictionary entries of high-level holders are flat with respect to the alteration -/
theorem alter_is_nested_update (u : KV) (sm : SM) (d r : KV) (hwf : u.wf = true)
    (hflat : flatAll sm d u = true) (h : alterAllD sm d u = .ok r) : r = updNested d u :=
  alterAll_eq_upd u sm d r hwf hflat h

/-- `alter_frame_other`: one `alter_parameter(key, value)` leaves every other entry of the holder
untouched and keeps the holder's key list, whatever the holder kind -/
theorem alter_frame_other {sm : SM} {d d' : KV} {k : String} {v : J}
    (h : alterD sm d k v = .ok d') :
    d'.keys = d.keys ∧ ∀ k', k' ≠ k → d'.lookup k' = d.lookup k' :=
  ⟨alterD_keys h, fun _ hk => alterD_other h hk⟩

/-- `unpack_slice`: for a nested description the slice `value[i*u : (i+1)*u]` taken for set `i`
is exactly `unpack_nested_parameter_variations(description, i)`, i.e. (by `unpackNested_spec`) one
chain dictionary per described leaf holding its `i`-th listed value -/
theorem unpack_slice (vk : KV) (n i : Nat) (L : List J) (h : unpackRange vk n 0 = .ok L)
    (hi : i < n) :
    ∃ b, unpackNested i vk = .ok b ∧ sliceFor n i (JL.ofList L) = b ∧
      (listLeaves vk).map (fun pl => (pl.2.get? i).map (chain pl.1)) = b.map some := by
  obtain ⟨b, hb, hs⟩ := slice_block vk n i L h hi
  exact ⟨b, hb, hs, unpackNested_spec i vk b hb⟩

/-- a directly listed parameter `key: [v0 .. v(n-1)]`: set `i` gets exactly `v_i` -/
theorem unpack_direct (n i : Nat) (l : JL) (hlen : l.length = n) (hi : i < n) :
    sliceFor n i l = (match l.get? i with | some x => [x] | none => []) :=
  slice_direct n i l hlen hi

/-- non-vacuity / the shape of an unpacked description (two leaves, three sets) -/
example :
    unpackRange (.cons "rep" (.obj (.cons "rate" (.list (.cons (.int 1) (.cons (.int 2) (.cons (.int 3) .nil))))
                  (.cons "dur" (.list (.cons (.int 7) (.cons (.int 8) (.cons (.int 9) .nil)))) .nil))) .nil) 3 0
      = .ok [chain ["rep", "rate"] (.int 1), chain ["rep", "dur"] (.int 7),
             chain ["rep", "rate"] (.int 2), chain ["rep", "dur"] (.int 8),
             chain ["rep", "rate"] (.int 3), chain ["rep", "dur"] (.int 9)] := rfl

/-- `vw_sets`: a virtual-world analysis yields exactly `n` sets; set `i` is the base with the
virtual world altered by the `i`-th slice of every described key, programs / outputs / baseline
untouched, and the simulation settings altered only by `alter_simulation_info(i)` -/
theorem vw_sets {maps : Maps} {base : PH} {sens : Option String} {n : Nat} {vars : KV}
    {sets : List PH} (h : vary maps base sens "virtual_world" n vars = .ok sets) :
    sets.length = n ∧ ∀ i s, sets[i]? = some s →
      s.programs = base.programs ∧ s.progMaps = base.progMaps ∧ s.out = base.out ∧
      s.baseline = base.baseline ∧ alterSimInfo base.sim i = .ok s.sim ∧
      alterVariations (.high maps.vw) n i base.vw vars = .ok s.vw := by
  simp only [vary, varySets, if_true] at h
  cases hv : varyVW maps base n vars n 0 with
  | error e => simp [hv] at h
  | ok l =>
    simp only [hv] at h
    obtain ⟨hlen, hspec⟩ := varyVW_spec maps base n vars n 0 l hv
    obtain ⟨hlen2, hspec2⟩ := finishSets_spec l 0 sets h
    refine ⟨by rw [hlen2, hlen], ?_⟩
    intro i s hs
    obtain ⟨s0, sim', hl0, hsim, hs'⟩ := hspec2 i s hs
    obtain ⟨vw', hvw, hs0⟩ := hspec i s0 hl0
    subst hs0
    subst hs'
    simp only [Nat.zero_add] at hsim hvw
    exact ⟨rfl, rfl, rfl, rfl, hsim, hvw⟩

/-- `frame` (virtual-world level): in set `i` every leaf of the base virtual world that none of the
applied variations reaches keeps its base value -/
theorem vw_frame {maps : Maps} {base : PH} {sens : Option String} {n : Nat} {vars : KV}
    {sets : List PH} {i : Nat} {s : PH} {p : Path} {v : J}
    (h : vary maps base sens "virtual_world" n vars = .ok sets) (hs : sets[i]? = some s)
    (hwf : vars.wf = true) (hok : varsOK (.high maps.vw) n i base.vw vars = true)
    (hg : get? p (.obj base.vw) = some v) (hv : v.isObj = false)
    (ht : ∀ k l x, vars.lookup k = some (.list l) → x ∈ sliceFor n i l →
        touched (.obj (single k x)) p = false) :
    get? p (.obj s.vw) = some v := by
  obtain ⟨_, hspec⟩ := vw_sets h
  obtain ⟨_, _, _, _, _, halt⟩ := hspec i s hs
  exact alterVariations_frame vars base.vw s.vw p v hwf hok halt ht hg hv

/-- `varied` (virtual-world level): the path reached by the last applied variation of a key holds
the value listed for this set -/
theorem vw_varied {maps : Maps} {base : PH} {sens : Option String} {n : Nat} {vars : KV}
    {sets : List PH} {i : Nat} {s : PH} {k : String} {l : JL} {pre post : List J} {x : J}
    {p : Path} {v : J}
    (h : vary maps base sens "virtual_world" n vars = .ok sets) (hs : sets[i]? = some s)
    (hwf : vars.wf = true) (hok : varsOK (.high maps.vw) n i base.vw vars = true)
    (hl : vars.lookup k = some (.list l)) (hsl : sliceFor n i l = pre ++ x :: post)
    (htx : touched (.obj (single k x)) p = true)
    (hpost : ∀ y, y ∈ post → touched (.obj (single k y)) p = false)
    (hg : get? p (.obj (single k x)) = some v) (hv : v.isObj = false) :
    get? p (.obj s.vw) = some v := by
  obtain ⟨_, hspec⟩ := vw_sets h
  obtain ⟨_, _, _, _, _, halt⟩ := hspec i s hs
  exact alterVariations_varied vars base.vw s.vw k l pre post x p v hwf hok halt hl hsl htx hpost hg hv

/-- `vw_described`: description → value.  For a (well-formed) nested description of a virtual-world
key `k`, every described leaf path `q` with listed values `vals` holds, in set `i`, exactly
`vals[i]` — the unpacking (`unpack`), the per-set slice (`unpack_slice`), the order of the applied
chain dictionaries and their mutual non-interference (the described leaf paths are pairwise
incomparable, `listLeaves_prefixFree`) composed with `vw_varied` -/
theorem vw_described {maps : Maps} {base : PH} {sens : Option String} {n : Nat} {desc vars : KV}
    {sets : List PH} {i : Nat} {s : PH} {k : String} {vk : KV} {q : Path} {vals : JL} {v : J}
    (hu : unpack n desc = .ok vars)
    (h : vary maps base sens "virtual_world" n vars = .ok sets) (hs : sets[i]? = some s)
    (hi : i < n) (hwf : vars.wf = true) (hok : varsOK (.high maps.vw) n i base.vw vars = true)
    (hk : desc.lookup k = some (.obj vk)) (hvk : vk.wf = true)
    (hq : (q, vals) ∈ listLeaves vk) (hv : vals.get? i = some v) (hleaf : v.isObj = false) :
    get? (k :: q) (.obj s.vw) = some v := by
  obtain ⟨L, hL, hvars⟩ := unpack_lookup n desc vars k vk hu hk
  obtain ⟨b, hb, hslice, hspec⟩ := unpack_slice vk n i L hL hi
  obtain ⟨P1, P2, hP⟩ := List.append_of_mem hq
  rw [hP] at hspec
  obtain ⟨b1, x, b2, hbsplit, hx, hb2⟩ := map_some_split _ P1 (q, vals) P2 b hspec
  simp only [hv, Option.map_some, Option.some.injEq] at hx
  subst hx
  have hpf := listLeaves_prefixFree vk hvk
  rw [hP, List.map_append, List.map_cons, List.pairwise_append] at hpf
  have hafter : ∀ q', q' ∈ P2.map Prod.fst → Incomparable q q' := by
    intro q' hq'
    exact (List.pairwise_cons.mp hpf.2.1).1 q' hq'
  apply vw_varied h hs hwf hok hvars (hslice.trans hbsplit)
  · simp [touched, single, KV.lookup, touched_chain_self q v hleaf]
  · intro y hy
    -- y is the chain dictionary of a later described leaf: its path is incomparable with q
    have hmem : some y ∈ b2.map some := List.mem_map.mpr ⟨y, hy, rfl⟩
    rw [← hb2] at hmem
    obtain ⟨⟨q', vals'⟩, hm', hy'⟩ := List.mem_map.mp hmem
    cases hg : vals'.get? i with
    | none => simp [hg] at hy'
    | some v' =>
      simp only [hg, Option.map_some, Option.some.injEq] at hy'
      subst hy'
      cases ht : touched (.obj (single k (chain q' v'))) (k :: q) with
      | false => rfl
      | true =>
        simp only [touched, single, KV.lookup, if_true] at ht
        have hpre := touched_chain_prefix q' v' q ht
        exact absurd hpre (hafter q' (List.mem_map.mpr ⟨(q', vals'), hm', rfl⟩)).2
  · simp [get?, single, KV.lookup, get?_chain]
  · exact hleaf

private def exMaps : Maps :=
  { vw := .cons "emissions" (.high (.cons "rep" .gen .nil)) .nil, out := .nil, method := .nil,
    prog := .nil }

private def exBase : PH :=
  mkPH exMaps (.cons "output_directory" (.str "out") .nil)
    (.cons "B" (.obj (.cons "program_name" (.str "B") .nil)) .nil)
    (.cons "weather" (.str "f") (.cons "emissions" (.obj (.cons "file" (.str "e.csv")
      (.cons "rep" (.obj (.cons "rate" (.float 65 (-4)) (.cons "dur" (.int 365) .nil))) .nil))) .nil))
    .nil "B"

private def exDesc : KV :=
  .cons "emissions" (.obj (.cons "rep" (.obj (.cons "rate" (.list (.cons (.int 1) (.cons (.int 2) .nil)))
    (.cons "dur" (.list (.cons (.int 7) (.cons (.int 8) .nil))) .nil))) .nil)) .nil

/-- non-vacuity of the virtual-world theorems: a two-set analysis of two leaves under one key —
accepted, hypotheses true, two sets; set 1 holds the second listed values, everything else
(`weather`, `emissions.file`) and the output folder `out/1` as stated -/
example :
    (match unpack 2 exDesc with
      | .ok vars =>
        vars.wf && varsOK (.high exMaps.vw) 2 0 exBase.vw vars && varsOK (.high exMaps.vw) 2 1 exBase.vw vars &&
        (match vary exMaps exBase none "virtual_world" 2 vars with
          | .ok [_, s1] =>
            (match get? ["emissions", "rep", "rate"] (.obj s1.vw), get? ["emissions", "rep", "dur"] (.obj s1.vw),
                   get? ["emissions", "file"] (.obj s1.vw), get? ["weather"] (.obj s1.vw),
                   get? ["output_directory"] (.obj s1.sim) with
              | some a, some b, some c, some d, some e =>
                J.beq a (.int 2) && J.beq b (.int 8) && J.beq c (.str "e.csv") && J.beq d (.str "f") &&
                  J.beq e (.str "out/1")
              | _, _, _, _, _ => false)
          | _ => false)
      | _ => false) = true := by
  decide +kernel

private def exHetero : KV :=
  .cons "emissions" (.list (.cons (.obj (.cons "rep" (.obj (.cons "rate" (.int 1) .nil)) .nil))
    (.cons (.obj (.cons "rep" (.obj (.cons "dur" (.int 8) .nil)) .nil))
    (.cons (.obj (.cons "file" (.str "x.csv") .nil)) .nil)))) .nil

/-- a one-at-a-time design in the per-set form (set 0 varies `rep.rate`, set 1 `rep.dur`, set 2
`file`): every set holds its own value and the BASE values of what the other sets list -/
example :
    (match vary exMaps exBase none "virtual_world" 3 exHetero with
      | .ok [s0, s1, s2] =>
        (match get? ["emissions", "rep", "rate"] (.obj s0.vw), get? ["emissions", "rep", "dur"] (.obj s0.vw),
               get? ["emissions", "rep", "rate"] (.obj s1.vw), get? ["emissions", "rep", "dur"] (.obj s1.vw),
               get? ["emissions", "rep", "rate"] (.obj s2.vw), get? ["emissions", "file"] (.obj s2.vw),
               get? ["emissions", "file"] (.obj s1.vw) with
          | some a, some b, some c, some d, some e, some f, some g =>
            J.beq a (.int 1) && J.beq b (.int 365) && J.beq c (.float 65 (-4)) && J.beq d (.int 8) &&
              J.beq e (.float 65 (-4)) && J.beq f (.str "x.csv") && J.beq g (.str "e.csv")
          | _, _, _, _, _, _, _ => false)
      | _ => false) = true := by
  decide +kernel

/-- `set_independence`: set `i` of a virtual-world analysis is a function of the base parameters,
the index `i` and the slices set `i` itself applies (`slicesOf n i vars`) — of nothing else.  Two
analyses of the same base whose descriptions agree on what set `i` lists produce the same set `i`,
whatever the other sets list (other paths, other values, another number of sets): no state is
carried from set to set.  (The model computes every set from `base.vw`; the correspondence feeds it
heterogeneous per-set descriptions — one-at-a-time designs — so a working copy that is not reset
between sets shows as a disagreement and as a frame violation of the oracle.) -/
theorem set_independence {maps : Maps} {base : PH} {sens sens' : Option String} {n n' : Nat}
    {vars vars' : KV} {sets sets' : List PH} {i : Nat} {s s' : PH} {sl : List (String × List J)}
    (h : vary maps base sens "virtual_world" n vars = .ok sets) (hs : sets[i]? = some s)
    (h' : vary maps base sens' "virtual_world" n' vars' = .ok sets') (hs' : sets'[i]? = some s')
    (hsl : slicesOf n i vars = some sl) (hsl' : slicesOf n' i vars' = some sl) : s = s' := by
  obtain ⟨_, hspec⟩ := vw_sets h
  obtain ⟨_, hspec'⟩ := vw_sets h'
  obtain ⟨a1, a2, a3, a4, a5, a6⟩ := hspec i s hs
  obtain ⟨b1, b2, b3, b4, b5, b6⟩ := hspec' i s' hs'
  rw [alterVariations_eq_applySlices _ n i vars base.vw sl hsl] at a6
  rw [alterVariations_eq_applySlices _ n' i vars' base.vw sl hsl'] at b6
  rw [a6] at b6
  rw [a5] at b5
  cases s
  cases s'
  cases b5
  cases b6
  subst a1 a2 a3 a4 b1 b2 b3 b4
  rfl

/-- and that function is explicit: the virtual world of set `i` is `applySlices` of the BASE virtual
world (not of set `i-1`) -/
theorem set_is_base_plus_own_slices {maps : Maps} {base : PH} {sens : Option String} {n : Nat}
    {vars : KV} {sets : List PH} {i : Nat} {s : PH} {sl : List (String × List J)}
    (h : vary maps base sens "virtual_world" n vars = .ok sets) (hs : sets[i]? = some s)
    (hsl : slicesOf n i vars = some sl) :
    applySlices (.high maps.vw) base.vw sl = .ok s.vw ∧ alterSimInfo base.sim i = .ok s.sim ∧
    s.programs = base.programs ∧ s.out = base.out := by
  obtain ⟨_, hspec⟩ := vw_sets h
  obtain ⟨a1, _, a3, _, a5, a6⟩ := hspec i s hs
  rw [alterVariations_eq_applySlices _ n i vars base.vw sl hsl] at a6
  exact ⟨a6, a5, a1, a3⟩

/-- `out_folder`: `alter_simulation_info(i)` rewrites the output folder to `<out>/<i>` and nothing
else; different sets get different folders -/
theorem out_folder {sim sim' : KV} {i : Nat} (h : alterSimInfo sim i = .ok sim') :
    ∃ v, sim.lookup "output_directory" = some v ∧
      sim'.lookup "output_directory" = some (.str (pyStr v ++ "/" ++ toString i)) ∧
      sim'.keys = sim.keys ∧ ∀ k, k ≠ "output_directory" → sim'.lookup k = sim.lookup k :=
  alterSimInfo_spec h

theorem out_folders_distinct {sim s1 s2 : KV} {i j : Nat} (h1 : alterSimInfo sim i = .ok s1)
    (h2 : alterSimInfo sim j = .ok s2)
    (heq : s1.lookup "output_directory" = s2.lookup "output_directory") : i = j := by
  obtain ⟨v1, hv1, ho1, _, _⟩ := alterSimInfo_spec h1
  obtain ⟨v2, hv2, ho2, _, _⟩ := alterSimInfo_spec h2
  rw [hv1] at hv2
  cases hv2
  rw [ho1, ho2] at heq
  simp only [Option.some.injEq, J.str.injEq, String.append_assoc] at heq
  have := (String.append_right_inj (pyStr v1)).mp heq
  have := (String.append_right_inj "/").mp this
  exact Nat.repr_injective this

/-- one set, virtual world and outputs untouched, output folder `out/0` -/
theorem programs_methods_frame {maps : Maps} {base : PH} {sens : Option String} {level : String}
    {n : Nat} {vars : KV} {sets : List PH}
    (hlevel : level = "programs" ∨ level = "methods")
    (h : vary maps base sens level n vars = .ok sets) :
    ∃ s, sets = [s] ∧ s.vw = base.vw ∧ s.out = base.out ∧ alterSimInfo base.sim 0 = .ok s.sim := by
  rcases hlevel with rfl | rfl
  · obtain ⟨s0, sim', hp, hsim, hsets⟩ := vary_programs h
    obtain ⟨_, _, _, _, _, _, rfl⟩ := varyProgramsSet_inv hp
    exact ⟨_, hsets, rfl, rfl, hsim⟩
  · obtain ⟨s0, sim', hm, hsim, hsets⟩ := vary_methods h
    obtain ⟨acc, hf, _⟩ := varyMethodsSet_inv hm
    obtain ⟨h1, h2, h3, _⟩ := finishMethods_spec hf
    exact ⟨_, hsets, h1, h2, by rw [← h3]; exact hsim⟩

/-- `baseline_unchanged` (methods level): the baseline program of the set is the base's baseline
program -/
theorem baseline_unchanged_methods {maps : Maps} {base : PH} {sens : String} {n : Nat} {vars : KV}
    {s : PH} (h : vary maps base (some sens) "methods" n vars = .ok [s]) :
    ∃ bp, base.programs.lookup base.baseline = some bp ∧
      s.programs.lookup base.baseline = some bp := by
  obtain ⟨s0, sim', hm, _, hsets⟩ := vary_methods h
  obtain ⟨acc, hf, _⟩ := varyMethodsSet_inv hm
  obtain ⟨_, _, _, _, bp, hb1, hb2, _⟩ := finishMethods_spec hf
  cases hsets
  exact ⟨bp, hb1, hb2⟩

/-- `baseline_unchanged` (programs level): unless a varied copy is itself named like the
baseline program, the baseline program of the set is the base's baseline program -/
theorem baseline_unchanged_programs {maps : Maps} {base : PH} {sens : Option String} {n : Nat}
    {vars : KV} {s : PH} (h : vary maps base sens "programs" n vars = .ok [s])
    (hb : ∀ pname i, pname ∈ vars.keys → i < n → rename pname i ≠ base.baseline) :
    ∃ bp, base.programs.lookup base.baseline = some bp ∧
      s.programs.lookup base.baseline = some bp := by
  obtain ⟨s0, sim', hp, _, hsets⟩ := vary_programs h
  obtain ⟨bp, bm, acc, hbp, _, hacc, rfl⟩ := varyProgramsSet_inv hp
  cases hsets
  refine ⟨bp, hbp, ?_⟩
  show acc.1.lookup base.baseline = some bp
  rw [varyProgramsOuter_other base n vars base.baseline n 0 _ acc hacc
    (fun q j hq _ h2 => hb q j hq (by omega))]
  simp [KV.lookup]

/-- `names`: when no base program already carries a name of the form `<sens>_<i>`, every set of a
methods-level analysis is present in the result under its own name (distinct for distinct `i` by
`names_distinct`) -/
theorem names_present_no_clash {maps : Maps} {base : PH} {sens : String} {n : Nat} {vars : KV}
    {s : PH} (h : vary maps base (some sens) "methods" n vars = .ok [s]) (hne : vars ≠ .nil)
    (hclash : ∀ i, i < n → rename sens i ∉ base.programs.keys) :
    ∀ i, i < n → (s.programs.lookup (rename sens i)).isSome = true := by
  intro i hi
  obtain ⟨s0, sim', hm, _, hsets⟩ := vary_methods h
  obtain ⟨acc, hf, ho⟩ := varyMethodsSet_inv hm
  obtain ⟨_, _, _, _, _, _, _, hother⟩ := finishMethods_spec hf
  cases hsets
  show (s0.programs.lookup (rename sens i)).isSome = true
  rw [hother (rename sens i) (hclash i hi)]
  exact (varyMethodsOuter_present base sens n vars hne n 0 _ acc (ho _ rfl)).1 i (Nat.zero_le _)
    (by omega)

/-- `program_frame` / `program_varied`: the copy `P_i` made for set `i` is the program `P` with
`program_name` renamed; every other leaf of `P` that no applied variation reaches keeps its value,
and the path reached by the last applied variation of a key holds the value listed for this set
(hypotheses `varsOK` on the renamed copy: evaluated per varied program by the check) -/
theorem program_copy {base : PH} {n i : Nat} {pname : String} {pvars : J} {nm : String} {p : J}
    {sm : SM} (h : varyProgram base n i pname pvars = .ok (nm, p, sm)) :
    ∃ pk vk pk1 pk2, base.programs.lookup pname = some (.obj pk) ∧ pvars = .obj vk ∧
      nm = rename pname i ∧ p = .obj pk2 ∧
      alterD sm pk "program_name" (.str (rename pname i)) = .ok pk1 ∧
      (flatD sm pk "program_name" (.str (rename pname i)) = true →
        pk1 = pk.setKey "program_name" (.str (rename pname i))) ∧
      -- frame
      (vk.wf = true → varsOK sm n i pk1 vk = true →
        ∀ k q v, k ≠ "program_name" → get? (k :: q) (.obj pk) = some v → v.isObj = false →
          (∀ k' l x, vk.lookup k' = some (.list l) → x ∈ sliceFor n i l →
              touched (.obj (single k' x)) (k :: q) = false) →
          get? (k :: q) (.obj pk2) = some v) ∧
      -- varied
      (vk.wf = true → varsOK sm n i pk1 vk = true →
        ∀ k l pre post x path v, vk.lookup k = some (.list l) → sliceFor n i l = pre ++ x :: post →
          touched (.obj (single k x)) path = true →
          (∀ y, y ∈ post → touched (.obj (single k y)) path = false) →
          get? path (.obj (single k x)) = some v → v.isObj = false →
          get? path (.obj pk2) = some v) := by
  obtain ⟨pk, vk, pk1, pk2, hp, _, hv, h1, h2, hnm, hpp⟩ := varyProgram_inv h
  refine ⟨pk, vk, pk1, pk2, hp, hv, hnm, hpp, h1, ?_, ?_, ?_⟩
  · intro hf
    have := alterD_eq_upd (.str (rename pname i)) sm pk pk1 "program_name" rfl hf h1
    simpa [updValue] using this
  · intro hwf hok k q v hk hg hleaf ht
    have hg1 : get? (k :: q) (.obj pk1) = some v := by
      simpa [get?, alterD_other h1 hk] using hg
    exact alterVariations_frame vk pk1 pk2 (k :: q) v hwf hok h2 ht hg1 hleaf
  · intro hwf hok k l pre post x path v hl hsl htx hpost hg hleaf
    exact alterVariations_varied vk pk1 pk2 k l pre post x path v hwf hok h2 hl hsl htx hpost hg hleaf

/-- `names_present_programs`: every copy `<program>_<i>` (n per varied program) is present in the
set of a programs-level analysis — no hypothesis: a clash can overwrite a program (F19b) but never
make a name disappear at this level -/
theorem names_present_programs {maps : Maps} {base : PH} {sens : Option String} {n : Nat}
    {vars : KV} {s : PH} (h : vary maps base sens "programs" n vars = .ok [s]) :
    ∀ pname i, pname ∈ vars.keys → i < n → (s.programs.lookup (rename pname i)).isSome = true := by
  intro pname i hp hi
  obtain ⟨s0, sim', hps, _, hsets⟩ := vary_programs h
  obtain ⟨_, _, acc, _, _, hacc, rfl⟩ := varyProgramsSet_inv hps
  cases hsets
  exact (varyProgramsOuter_present base n vars n 0 _ acc hacc).1 pname i hp (Nat.zero_le _) (by omega)

/-- `program_in_set`: when the name `<P>_<i>` is given to no other copy and is not the baseline's
name, the set holds under it exactly the copy `varyProgram` made (to which `program_copy` applies) -/
theorem program_in_set {maps : Maps} {base : PH} {sens : Option String} {n : Nat} {vars : KV}
    {s : PH} {pname : String} {pvars : J} {i : Nat}
    (h : vary maps base sens "programs" n vars = .ok [s]) (hwf : vars.wf = true)
    (hl : vars.lookup pname = some pvars) (hi : i < n)
    (hnc : ∀ q j, q ∈ vars.keys → (q ≠ pname ∨ j ≠ i) → rename q j ≠ rename pname i) :
    ∃ p sm, varyProgram base n i pname pvars = .ok (rename pname i, p, sm) ∧
      s.programs.lookup (rename pname i) = some p := by
  obtain ⟨s0, sim', hps, _, hsets⟩ := vary_programs h
  obtain ⟨_, _, acc, _, _, hacc, rfl⟩ := varyProgramsSet_inv hps
  cases hsets
  exact varyProgramsOuter_lookup base n vars pname pvars i hwf hl hnc n 0 _ acc hacc
    (Nat.zero_le _) (by omega)

/-- `method_copy`: one varied method of the program copy of set `i` —
(a) every other method keeps its value,
(b) the method is stored under `<m>_<i>` and (flat holders) is the nested update of the original
    method by the collected variations with `method_name` renamed,
(c) the label list is the old one with the first `m` removed and `<m>_<i>` appended -/
theorem method_copy {n i : Nat} {ms ms2 : KV} {mm mm1 : SML} {labels labels1 : List J}
    {mname : String} {mvars : J}
    (h : varyMethod n i ms mm labels mname mvars = .ok (ms2, mm1, labels1)) :
    ∃ target vk ls ad, ms.lookup mname = some target ∧ mvars = .obj vk ∧
      buildAlter n i .nil vk = .ok ad ∧
      (∀ k, k ≠ mname → k ≠ rename mname i → ms2.lookup k = ms.lookup k) ∧
      (∀ tk, target = .obj tk → ad.wf = true →
        flatD (.high mm1) ((ms.erase mname).setKey (rename mname i) target) (rename mname i)
          (.obj (ad.setKey "method_name" (.str (rename mname i)))) = true →
        ms2.lookup (rename mname i)
          = some (.obj (updNested tk (ad.setKey "method_name" (.str (rename mname i)))))) ∧
      removeFirst (.str mname) labels = some ls ∧ labels1 = ls ++ [J.str (rename mname i)] := by
  obtain ⟨target, vk, ls, ad, ht, hv, hls, hl1, had, halt⟩ := varyMethod_inv h
  refine ⟨target, vk, ls, ad, ht, hv, had, ?_, ?_, hls, hl1⟩
  · intro k hk1 hk2
    rw [alterD_other halt hk2, KV.lookup_setKey_ne _ hk2, KV.lookup_erase_ne hk1]
  · intro tk htk hadwf hflat
    subst htk
    have hwfv : (J.obj (ad.setKey "method_name" (.str (rename mname i)))).wf = true := by
      simp only [J.wf]
      exact KV.wf_setKey _ _ _ hadwf rfl
    have := alterD_eq_upd _ _ _ _ _ hwfv hflat halt
    rw [this, KV.lookup_setKey_same]
    simp [updValue, KV.lookup_setKey_same]

theorem names_distinct {name : String} {i j : Nat} (h : rename name i = rename name j) : i = j :=
  rename_inj h

/-- `program_mapping_local`: the sub-parameter mapping of a program holder is computed from the static
class mappings and that program's own `method_labels` — it does not depend on the other programs of
this holder (nor on any holder built before: `mkPH` takes nothing else).  This is the model's side of
the same-process history check (one holder serving analyses A, B, A; twin holders from the same
dictionaries; class-level mappings compared before / after the run). -/
theorem program_mapping_local (maps : Maps) (name : String) (p : J) (rest : KV) :
    (progMapsOf maps (.cons name p rest)).lookup name
      = some (match p with
              | .obj pk => .high (progMapOf maps pk)
              | _ => .gen) ∧
    ∀ other, other ≠ name →
      (progMapsOf maps (.cons name p rest)).lookup other = (progMapsOf maps rest).lookup other := by
  constructor
  · cases p <;> simp [progMapsOf, SML.lookup]
  · intro other h
    simp [progMapsOf, SML.lookup, Ne.symm h]

/-- a holder renders exactly the dictionaries it was built from, whatever was built before -/
theorem holder_renders_its_input (maps : Maps) (sim programs vw out : KV) (baseline : String) :
    (mkPH maps sim programs vw out baseline).sim = sim ∧
    (mkPH maps sim programs vw out baseline).programs = programs ∧
    (mkPH maps sim programs vw out baseline).vw = vw ∧
    (mkPH maps sim programs vw out baseline).out = out :=
  ⟨rfl, rfl, rfl, rfl⟩

private def cxMaps : Maps :=
  { vw := .nil, out := .nil, method := .nil, prog := .cons "methods" (.high .nil) .nil }

private def cxProg (name : String) : J :=
  .obj (.cons "program_name" (.str name)
    (.cons "method_labels" (.list (.cons (.str "m") .nil))
    (.cons "methods" (.obj (.cons "m" (.obj (.cons "method_name" (.str "m") (.cons "crew" (.int 1) .nil))) .nil)) .nil)))

private def cxBase : PH :=
  mkPH cxMaps (.cons "output_directory" (.str "out") .nil)
    (.cons "P_none" (.obj (.cons "program_name" (.str "P_none") (.cons "method_labels" (.list .nil)
        (.cons "methods" (.obj .nil) .nil))))
     (.cons "P" (cxProg "P") (.cons "P_1" (cxProg "P_1") .nil)))
    .nil .nil "P_none"

private def cxVars : KV :=
  .cons "m" (.obj (.cons "crew" (.list (.cons (.int 5) (.cons (.int 6) .nil))) .nil)) .nil

/-- base programs `P_none`, `P`, `P_1`; two sets on method `m` of `P`: the varied copy `P_1` is
removed again together with "the original programs" — set 1 is missing (finding F19a) -/
theorem C19_counterexample_names :
    ¬ (∀ (maps : Maps) (base : PH) (sens : String) (n : Nat) (vars : KV) (s : PH),
      vary maps base (some sens) "methods" n vars = .ok [s] → vars ≠ .nil →
      ∀ i, i < n → (s.programs.lookup (rename sens i)).isSome = true) := by
  intro h
  have hv : (match vary cxMaps cxBase (some "P") "methods" 2 cxVars with
      | .ok [s] => (s.programs.lookup (rename "P" 1)).isNone
      | _ => false) = true := by
    decide +kernel
  split at hv
  · rename_i s hs
    have := h cxMaps cxBase "P" 2 cxVars s hs (by simp [cxVars]) 1 (by omega)
    rw [Option.isNone_iff_eq_none.mp hv] at this
    cases this
  · cases hv

theorem C19_counterexample : ¬ C19_statement := fun h => C19_counterexample_names h.2

/-- `C19_partial`: clause (1) of the statement holds as stated, clause (2) under the no-clash
hypothesis -/
theorem C19_partial :
    (∀ (maps : Maps) (base : PH) (sens : Option String) (n : Nat) (vars : KV) (sets : List PH)
      (i : Nat) (s : PH) (p : Path) (v : J),
      vary maps base sens "virtual_world" n vars = .ok sets → sets[i]? = some s →
      vars.wf = true → varsOK (.high maps.vw) n i base.vw vars = true →
      get? p (.obj base.vw) = some v → v.isObj = false →
      (∀ k l x, vars.lookup k = some (.list l) → x ∈ sliceFor n i l →
          touched (.obj (single k x)) p = false) →
      get? p (.obj s.vw) = some v)
    ∧
    (∀ (maps : Maps) (base : PH) (sens : String) (n : Nat) (vars : KV) (s : PH),
      vary maps base (some sens) "methods" n vars = .ok [s] → vars ≠ .nil →
      (∀ i, i < n → rename sens i ∉ base.programs.keys) →
      ∀ i, i < n → (s.programs.lookup (rename sens i)).isSome = true) :=
  ⟨fun _ _ _ _ _ _ _ _ _ _ h hs hwf hok hg hv ht => vw_frame h hs hwf hok hg hv ht,
   fun _ _ _ _ _ _ h hne hcl => names_present_no_clash h hne hcl⟩

end LdarModel.Holder
