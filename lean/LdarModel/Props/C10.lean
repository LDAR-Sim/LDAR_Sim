import LdarModel.Lemmas.Cost
import LdarModel.Generated.CrewCost
/-
C10 — cost accounting: every cost item is charged exactly once, totals add up.

Model: `Model/Cost.lean` on top of `Crew.deployDay` and `Emission.run`.  The model follows the code
after the two `fix:` commits recorded in findings.d/C10.json (component-level per-site charge at
completion; stationary component-level per-day charge per planned site), i.e. one booking rule for
all method classes (the measurement scale is not a parameter of the model: the four classes run the
same loop, which the four-class correspondence of the check establishes).
-/
namespace LdarModel.Cost
open LdarModel.Crew

/-- the property at full strength -/
def C10_statement : Prop :=
  -- (1) the daily row: cost = Σ_m (deployment cost + upfront on the first day) + own repair cost;
  --     natural repair cost reported separately and not part of it
  (∀ (first : Bool) (ms : List MethodDay) (rep nat : Int),
      (dailyRow first ms rep nat).cost
          = (ms.map (fun m => m.deploy + if first then m.upfront else 0)).sum + rep ∧
      (dailyRow first ms rep nat).cost = (dailyRow first ms rep nat).methodCols.sum + rep ∧
      (dailyRow first ms rep nat).repCost = rep ∧ (dailyRow first ms rep nat).natRepCost = nat ∧
      ∀ nat', (dailyRow first ms rep nat').cost = (dailyRow first ms rep nat).cost) ∧
  -- (2) per-site methods (any deployment type, crews, plan): the day's deployment cost is the sum,
  --     over the requests whose report is complete at the end of the day (the schedule only plans
  --     reports that are not complete, `ReqOk.hC`, so these are the surveys completed that day), of
  --     the effective site cost
  (∀ (p : MethodP) (budget : Int) (n : Nat) (reqs : List Req), p.perSite = true →
      (deployDay p budget n reqs).stats.cost
        = (((deployDay p budget n reqs).out.filter (fun o => o.rep.complete)).map
            (fun o => siteCharge p o.req)).sum) ∧
  -- (3) per-day methods: unit cost × deployed crews (mobile) / × planned sites (stationary)
  (∀ (p : MethodP) (budget : Int) (n : Nat) (reqs : List Req), p.perSite = false →
      (deployDay p budget n reqs).stats.cost =
        if p.stationary then p.unitCost * reqs.length
        else p.unitCost * ((deployDay p budget n reqs).crews.filter
              (fun c => crewVisited c.id (deployDay p budget n reqs).out)).length) ∧
  -- (4) upfront cost: over a run it is contained in the rows exactly once
  (∀ (d : DayData) (ds : List DayData),
      ((programRows (d :: ds)).map (·.cost)).sum
        = (d.methods.map (·.upfront)).sum
          + (((d :: ds).map (fun x => (x.methods.map (·.deploy)).sum + x.repCost)).sum)) ∧
  -- (5) each program repair contributes its cost exactly once, on its repair day; natural repairs
  --     go to the other column
  (∀ (p : Emission.Params) (cost : Int) (ev : Nat → List Emission.TagEv) (N : Nat), p.repairable = true →
      sumTo (fun n => (bookDay p cost ev n).1) N
        = (if (Emission.run p ev N).status = .repaired ∧ (Emission.run p ev N).by_ ≠ .natural then cost else 0) ∧
      sumTo (fun n => (bookDay p cost ev n).2) N
        = (if (Emission.run p ev N).status = .repaired ∧ (Emission.run p ev N).by_ = .natural then cost else 0)) ∧
  -- (6) a program without methods costs nothing
  (∀ (first : Bool) (nat : Int) (es : List (Emission.Params × Int)) (n : Nat),
      (dailyRow first [] ((es.map (fun e => (bookDay e.1 e.2 Emission.noEvents n).1)).sum) nat).cost = 0) ∧
  -- (7) program level: the row of day n carries the sum of that day's bookings of all the program's
  --     leaks, and over a run the repair-cost column adds up to the costs of exactly the leaks the
  --     program repaired (each once), the natural column to those of the naturally repaired ones
  (∀ (ms : Nat → List MethodDay) (es : List Leak) (N : Nat), (∀ e ∈ es, e.p.repairable = true) →
      (∀ n, (programDay ms es n).repCost = (es.map (fun e => (bookDay e.p e.cost e.ev n).1)).sum ∧
            (programDay ms es n).cost
              = ((ms n).map (fun m => m.deploy + if n = 0 then m.upfront else 0)).sum + (programDay ms es n).repCost) ∧
      sumTo (fun n => (programDay ms es n).repCost) N
        = (es.map (fun e => if (Emission.run e.p e.ev N).status = .repaired ∧ (Emission.run e.p e.ev N).by_ ≠ .natural
                            then e.cost else 0)).sum ∧
      sumTo (fun n => (programDay ms es n).natRepCost) N
        = (es.map (fun e => if (Emission.run e.p e.ev N).status = .repaired ∧ (Emission.run e.p e.ev N).by_ = .natural
                            then e.cost else 0)).sum)

/-! ### cost type -/

/-- `initialize_cost_tracking` as a decision table -/
theorem cost_type_selection (c : MethodCost) :
    (c.perDay > 0 → selectCost c = (.perDay, c.perDay)) ∧
    (c.perDay ≤ 0 → ∀ s, c.perSite = some s → s > 0 → selectCost c = (.perSite, s)) ∧
    (c.perDay ≤ 0 → (c.perSite = none ∨ ∃ s, c.perSite = some s ∧ s ≤ 0) → selectCost c = (.perDay, 0)) := by
  unfold selectCost
  refine ⟨fun h => by simp [h], fun h s hs hp => ?_, fun h hn => ?_⟩
  · have : ¬ c.perDay > 0 := by omega
    simp [this, hs, hp]
  · have : ¬ c.perDay > 0 := by omega
    rcases hn with hn | ⟨s, hs, hle⟩
    · simp [this, hn]
    · have : ¬ s > 0 := by omega
      simp [*]

/-! ### (1) the daily row -/

theorem row_identity (first : Bool) (ms : List MethodDay) (rep nat : Int) :
    (dailyRow first ms rep nat).cost
        = (ms.map (fun m => m.deploy + if first then m.upfront else 0)).sum + rep ∧
    (dailyRow first ms rep nat).cost = (dailyRow first ms rep nat).methodCols.sum + rep ∧
    (dailyRow first ms rep nat).repCost = rep ∧ (dailyRow first ms rep nat).natRepCost = nat ∧
    ∀ nat', (dailyRow first ms rep nat').cost = (dailyRow first ms rep nat).cost := by
  refine ⟨?_, ?_, rfl, rfl, fun _ => rfl⟩
  · simp only [dailyRow]; rw [totalDaily_eq]
  · simp only [dailyRow]; rw [totalDaily_eq]
    cases first <;> simp

/-! ### (2) per-site methods -/

/-- the day's deployment cost of a per-site method is the sum, over the surveys *completed* that
day, of the site's survey cost (method cost when the site cost is 0) — for every deployment type,
crew count and work plan (and, the loop being shared, every method class); visits that are aborted by weather, left
partial or not made at all are not charged, a survey that uses up the crew's day is -/
theorem per_site_once (p : MethodP) (budget : Int) (n : Nat) (reqs : List Req) (hp : p.perSite = true) :
    (deployDay p budget n reqs).stats.cost
      = (((deployDay p budget n reqs).out.filter (fun o => o.rep.complete)).map
          (fun o => siteCharge p o.req)).sum := by
  rw [← chargedByRecords_perSite p hp, (serveAll_crews_out p budget n reqs).2, ← serveAll_cost]
  unfold deployDay finalize
  simp [hp]

/-- the effective site cost: the site's own cost, or the method's when the site's is 0 -/
theorem site_charge_fallback (p : MethodP) (r : Req) :
    (r.siteCost ≠ 0 → siteCharge p r = r.siteCost) ∧
    (r.siteCost = 0 → p.unitCost > 0 → siteCharge p r = p.unitCost) := by
  unfold siteCharge
  constructor
  · intro h; simp [h]
  · intro h hu; simp [h, hu]

/-- over the days of one survey (partial days, weather aborts, days without a crew, resumption) a
per-site method charges the site exactly once — on completion — and nothing while unfinished -/
theorem per_site_once_multiday (stationary : Bool) (S charge : Int) (days : List DayIn) :
    (surveyCostRun stationary S charge days {} 0).2
      = if (surveyCostRun stationary S charge days {} 0).1.complete = true then charge else 0 := by
  have key : ∀ (days : List DayIn) (rep : Report) (acc : Int),
      acc = (if rep.complete = true then charge else 0) →
      (surveyCostRun stationary S charge days rep acc).2
        = if (surveyCostRun stationary S charge days rep acc).1.complete = true then charge else 0 := by
    intro days
    induction days with
    | nil => intro rep acc h; simp only [surveyCostRun]; exact h
    | cons d ds ih =>
      intro rep acc h
      simp only [surveyCostRun]
      apply ih
      by_cases hc : rep.complete = true
      · have : (surveyDay stationary S rep d).1 = rep := by unfold surveyDay; simp [hc]
        rw [this]; simp [hc, h]
      · simp only [hc] at h
        by_cases hc2 : (surveyDay stationary S rep d).1.complete = true <;> simp [hc, hc2, h]
  exact key days {} 0 (by simp)

/-- `surveyCostRun` is not a stipulation: one step of it is `deployDay` on the one-request plan of
that day (one crew with the day's minutes if a crew is available, none otherwise) — same report
afterwards, and the increment is that day's deployment cost of the per-site method -/
theorem surveyCostRun_step_is_deployDay (p : MethodP) (hp : p.perSite = true) (r : Req)
    (hc : r.rep.complete = false) (R : Int) (served : Bool) :
    let d := deployDay p R (if served then 1 else 0) [r]
    let x := surveyDay p.stationary r.S r.rep
               { R := R, T := r.T, workable := workable p r, served := served }
    d.out.map (·.rep) = [x.1] ∧
    d.stats.cost = (if x.1.complete = true ∧ ¬ r.rep.complete = true then siteCharge p r else 0) := by
  -- both sides are computations: the loop of `deploy_crews` run once, with no crew or with one; what
  -- is left after unfolding is that the visit and last-site updates of the statistics leave the cost alone
  cases served
  · simp [deployDay, serveAll, serve, initCrews, pick, finalize, hp, surveyDay, hc, chargeIfComplete]
  · simp [deployDay, serveAll, serve, initCrews, pick, finalize, hp, surveyDay, hc, chargeIfComplete,
      List.range, List.range.loop]
    generalize surveyStep R r.S r.T r.rep.surveyed p.stationary (workable p r) = o
    cases o.last <;> cases o.visited <;> simp

/-! ### (3) per-day methods -/

theorem per_day_once (p : MethodP) (budget : Int) (n : Nat) (reqs : List Req) (hp : p.perSite = false) :
    (deployDay p budget n reqs).stats.cost =
      if p.stationary then p.unitCost * reqs.length
      else p.unitCost * ((deployDay p budget n reqs).crews.filter
            (fun c => crewVisited c.id (deployDay p budget n reqs).out)).length := by
  have hdep := (deployDay_traceInv p budget n reqs).dep
  have hc := (serveAll_crews_out p budget n reqs).1
  have hcnt : countDeployed (deployDay p budget n reqs).crews
      = ((deployDay p budget n reqs).crews.filter
            (fun c => crewVisited c.id (deployDay p budget n reqs).out)).length := by
    unfold countDeployed
    congr 1
    apply List.filter_congr
    intro c hc'
    exact hdep c hc'
  rw [← hcnt, hc]
  unfold deployDay finalize
  cases p.stationary <;> simp [hp]

/-! ### (4) upfront cost -/

private theorem later_rows (xs : List DayData) :
    ((xs.map (fun x => dailyRow false x.methods x.repCost x.natRepCost)).map (·.cost)).sum
      = (xs.map (fun x => (x.methods.map (·.deploy)).sum + x.repCost)).sum := by
  induction xs with
  | nil => rfl
  | cons x xs ih =>
    simp only [List.map_cons, List.sum_cons]
    rw [ih, (row_identity false x.methods x.repCost x.natRepCost).1]
    simp

theorem upfront_once (d : DayData) (ds : List DayData) :
    ((programRows (d :: ds)).map (·.cost)).sum
      = (d.methods.map (·.upfront)).sum
        + (((d :: ds).map (fun x => (x.methods.map (·.deploy)).sum + x.repCost)).sum) := by
  simp only [programRows, List.map_cons, List.sum_cons]
  rw [later_rows, (row_identity true d.methods d.repCost d.natRepCost).1]
  simp only [if_true]
  rw [sum_map_add (fun m => m.deploy) (fun m => m.upfront)]
  omega

/-- what a method reports as its upfront cost: the configured amount times its crews
(one pseudo crew for a stationary method) -/
theorem upfront_amount (c : MethodCost) (stationary : Bool) (crews : Nat) (budget : Int) (cw : Bool)
    (env : Envelope) (reqs : List Req) :
    (methodDay c stationary cw env budget crews reqs).upfront
      = c.upfront * (if stationary then 1 else (crews : Int)) := by
  unfold methodDay upfrontCost crewCount
  cases stationary <;> simp

/-- **frame over earlier constructions**: however many methods were built before from the same
parameter dict, a method's upfront cost is a function of the cost parameters, its deployment type and
its crew count alone, and the dict is handed on unchanged -/
theorem upfront_frame (bs : List (Bool × Nat)) (c : MethodCost) :
    (constructAll bs c).2 = c ∧
    (constructAll bs c).1 = bs.map (fun b => c.upfront * (if b.1 then 1 else (b.2 : Int))) := by
  induction bs with
  | nil => exact ⟨rfl, rfl⟩
  | cons b bs ih =>
    obtain ⟨st, n⟩ := b
    simp only [constructAll, construct, List.map_cons]
    refine ⟨ih.1, ?_⟩
    rw [ih.2]
    congr 1
    unfold upfrontCost crewCount
    cases st <;> simp

/-! ### (5) repair cost -/

private theorem repaired_stays (p : Emission.Params) (ev : Nat → List Emission.TagEv) (n : Nat)
    (h : (Emission.run p ev n).status = .repaired) : Emission.run p ev (n + 1) = Emission.run p ev n := by
  simp only [Emission.run]
  exact day_repaired_fixed p n (ev n) _ h

theorem repair_once (p : Emission.Params) (cost : Int) (ev : Nat → List Emission.TagEv) (N : Nat)
    (hr : p.repairable = true) :
    sumTo (fun n => (bookDay p cost ev n).1) N
      = (if (Emission.run p ev N).status = .repaired ∧ (Emission.run p ev N).by_ ≠ .natural then cost else 0) ∧
    sumTo (fun n => (bookDay p cost ev n).2) N
      = (if (Emission.run p ev N).status = .repaired ∧ (Emission.run p ev N).by_ = .natural then cost else 0) := by
  induction N with
  | zero => simp [sumTo, Emission.run, Emission.init]
  | succ n ih =>
    simp only [sumTo]
    rw [ih.1, ih.2, bookDay_spec p hr cost ev n]
    by_cases h0 : (Emission.run p ev n).status = .repaired
    · rw [repaired_stays p ev n h0]
      simp [h0]
    · by_cases h1 : (Emission.run p ev (n + 1)).status = .repaired
      · by_cases h2 : (Emission.run p ev (n + 1)).by_ = .natural <;> simp [h0, h1, h2]
      · simp [h0, h1]

/-- the cost of a program repair is booked on the day the leak's status turns to repaired, and on
no other day -/
theorem repair_on_repair_day (p : Emission.Params) (cost : Int) (hc : cost ≠ 0)
    (ev : Nat → List Emission.TagEv) (n : Nat) (hr : p.repairable = true) :
    (bookDay p cost ev n).1 ≠ 0 ↔
      ((Emission.run p ev n).status ≠ .repaired ∧ (Emission.run p ev (n + 1)).status = .repaired
        ∧ (Emission.run p ev (n + 1)).by_ ≠ .natural) := by
  rw [bookDay_spec p hr cost ev n]
  by_cases h0 : (Emission.run p ev n).status = .repaired
  · simp [h0]
  · by_cases h1 : (Emission.run p ev (n + 1)).status = .repaired
    · by_cases h2 : (Emission.run p ev (n + 1)).by_ = .natural <;> simp [h0, h1, h2, hc]
    · simp [h0, h1]

/-! ### (6) no methods -/

/-- without methods nobody tags, so nothing is ever booked as a program repair -/
theorem no_tag_no_repair_cost (p : Emission.Params) (cost : Int) (n : Nat) :
    (bookDay p cost Emission.noEvents n).1 = 0 := by
  refine bookOnUpdate_untagged p cost _ fun ha => ?_
  rw [Emission.noEvents, List.foldl_nil] at ha ⊢
  rw [activate_tagged]
  exact noEvents_untagged p n fun hr => by simp [(activate_repaired p n _).2 hr] at ha

theorem no_methods_no_cost (first : Bool) (nat : Int) (es : List (Emission.Params × Int)) (n : Nat) :
    (dailyRow first [] ((es.map (fun e => (bookDay e.1 e.2 Emission.noEvents n).1)).sum) nat).cost = 0 := by
  have : (es.map (fun e => (bookDay e.1 e.2 Emission.noEvents n).1)).sum = 0 := by
    induction es with
    | nil => simp
    | cons e es ih => simp only [List.map_cons, List.sum_cons]; rw [ih, no_tag_no_repair_cost]; rfl
  simp [dailyRow, totalDaily, this]

/-! ### (7) the program's day -/

private theorem sumTo_add (f g : Nat → Int) (N : Nat) :
    sumTo (fun n => f n + g n) N = sumTo f N + sumTo g N := by
  induction N with
  | zero => rfl
  | succ n ih => simp only [sumTo, ih]; omega

private theorem sumTo_zero (N : Nat) : sumTo (fun _ => 0) N = 0 := by
  induction N with
  | zero => rfl
  | succ n ih => simp [sumTo, ih]

private theorem sumTo_list {β : Type} (es : List β) (f : β → Nat → Int) (N : Nat) :
    sumTo (fun n => (es.map (fun e => f e n)).sum) N = (es.map (fun e => sumTo (f e) N)).sum := by
  induction es with
  | nil => simpa using sumTo_zero N
  | cons e es ih =>
    simp only [List.map_cons, List.sum_cons]
    rw [sumTo_add (fun n => f e n) (fun n => (es.map (fun e => f e n)).sum), ih]

/-- the repair-cost column of a program over a run adds up to the costs of exactly the leaks the
program repaired, each once; natural repairs add up in the other column (from `repair_once`) -/
theorem program_repairs_once (ms : Nat → List MethodDay) (es : List Leak) (N : Nat)
    (hr : ∀ e ∈ es, e.p.repairable = true) :
    (∀ n, (programDay ms es n).repCost = (es.map (fun e => (bookDay e.p e.cost e.ev n).1)).sum ∧
          (programDay ms es n).cost
            = ((ms n).map (fun m => m.deploy + if n = 0 then m.upfront else 0)).sum + (programDay ms es n).repCost) ∧
    sumTo (fun n => (programDay ms es n).repCost) N
      = (es.map (fun e => if (Emission.run e.p e.ev N).status = .repaired ∧ (Emission.run e.p e.ev N).by_ ≠ .natural
                          then e.cost else 0)).sum ∧
    sumTo (fun n => (programDay ms es n).natRepCost) N
      = (es.map (fun e => if (Emission.run e.p e.ev N).status = .repaired ∧ (Emission.run e.p e.ev N).by_ = .natural
                          then e.cost else 0)).sum := by
  refine ⟨fun n => ⟨rfl, ?_⟩, ?_, ?_⟩
  · have h := (row_identity (n == 0) (ms n) (repSum es n) (natSum es n)).1
    have e : (programDay ms es n).repCost = repSum es n := rfl
    rw [e]
    simp only [programDay]
    rw [h]
    cases n <;> simp
  · show sumTo (fun n => repSum es n) N = _
    unfold repSum
    rw [sumTo_list es (fun e n => (bookDay e.p e.cost e.ev n).1) N]
    exact congrArg _ (List.map_congr_left fun e he => (repair_once e.p e.cost e.ev N (hr e he)).1)
  · show sumTo (fun n => natSum es n) N = _
    unfold natSum
    rw [sumTo_list es (fun e n => (bookDay e.p e.cost e.ev n).2) N]
    exact congrArg _ (List.map_congr_left fun e he => (repair_once e.p e.cost e.ev N (hr e he)).2)

/-- C10 over the model (the code after the two repairs of findings.d/C10.json) -/
theorem C10 : C10_statement :=
  ⟨row_identity, per_site_once, per_day_once, upfront_once,
   fun p cost ev N hr => repair_once p cost ev N hr, no_methods_no_cost,
   fun ms es N hr => program_repairs_once ms es N hr⟩

/-! ### table obligations (regenerated from /repo on every run: `Generated/CrewCost.lean`) -/

/-- the cost model books every item from the parameters and the day's events alone; the code it models
must not carry cost-relevant state from one construction / day / program to the next: the only
class-level containers of the modelled modules are the two read-only dispatch tables of
`ProgramOutputManager`, nothing mutates a shared container, nothing is cached, and the only copy /
pickle hooks are the known ones -/
theorem cost_no_cross_case_state :
    Generated.CrewCost.classLevelContainers =
      [("program_output_manager", "ProgramOutputManager", "PROGRAM_FUNCTIONS_MAPPING"),
       ("program_output_manager", "ProgramOutputManager", "PROGRAM_VISUALIZATION_FUNCTIONS_MAP")] ∧
    Generated.CrewCost.sharedContainerMutations = [] ∧ Generated.CrewCost.cachedFunctions = [] ∧
    Generated.CrewCost.copyHooks =
      [("daylight_calculator", "DaylightCalculatorAve", "__reduce__"),
       ("repairable_emission", "RepairableEmission", "__reduce__"),
       ("repairable_emission", "RepairableEmission", "__setstate__"),
       ("weather_lookup", "WeatherLookup", "__reduce__")] :=
  ⟨rfl, rfl, rfl, rfl⟩

/-! ### non-vacuity -/

private def envOk : Envelope := { tempLo := -10, tempHi := 25, windLo := 0, windHi := 8, precipLo := 0, precipHi := 3 }
private def fine : Wx := { temp := 15, wind := 1, precip := 0 }
private def rain : Wx := { temp := 15, wind := 1, precip := 9 }

/-- the F5 witness on the repaired model: one 420-minute survey in an 8 h day completes, exhausts
the crew and is charged 50; a weather-aborted visit and a partial survey are charged nothing; a
site with its own cost 75 is charged 75 -/
example :
    let c : MethodCost := { perDay := 0, perSite := some 50, upfront := 100 }
    (methodDay c false true envOk 480 1
        [{ site := 0, S := 420, siteCost := 0, rep := {}, T := 30, wx := fine }]).deploy = 50 ∧
    (methodDay c false true envOk 480 1
        [{ site := 0, S := 60, siteCost := 0, rep := {}, T := 30, wx := rain }]).deploy = 0 ∧
    (methodDay c false true envOk 480 2
        [{ site := 0, S := 600, siteCost := 0, rep := {}, T := 30, wx := fine },
         { site := 1, S := 60, siteCost := 75, rep := {}, T := 30, wx := fine }]).deploy = 75 ∧
    (methodDay c false true envOk 480 2 []).upfront = 200 := by
  decide +kernel

example :
    (programRows [{ methods := [{ deploy := 5, upfront := 100 }], repCost := 3, natRepCost := 7 },
                  { methods := [{ deploy := 6, upfront := 100 }], repCost := 0, natRepCost := 2 }]).map (·.cost)
      = [108, 6] := by
  decide +kernel

example :
    let p : Emission.Params := { start := 0, nrd := 10, repairDelay := 2, repairable := true,
                                 intermittent := false, activeDur := 1, inactiveDur := 0 }
    let ev : Nat → List Emission.TagEv := fun d => if d = 3 then [{ company := 1, trd := 1 }] else []
    (List.range 12).map (fun n => (bookDay p 200 ev n).1) = [0, 0, 0, 0, 0, 200, 0, 0, 0, 0, 0, 0] := by
  decide +kernel

end LdarModel.Cost
