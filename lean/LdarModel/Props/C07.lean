import LdarModel.Lemmas.Sched
import LdarModel.Lemmas.Crew
/-
C07 — no survey request is lost or duplicated; unfinished work keeps priority.

Model: `Model/Queue.lean` (sorted-list priority queue with FIFO counter) and `Model/Planner.lean`
(`scheduleDay` = request phase → take crews × capacity → site-keyed work plan → crew outcome per request
(an INPUT) → re-queue by report state; follow-up operations `fuAdd`, `fuRedetect`).
Every statement is over arbitrary configurations (any number of sites, crews, capacity, planner
parameters), arbitrary histories (lists of days, first flags and re-detections) and arbitrary crew
outcomes; proofs are by induction over the history on the invariant `Inv` of `Lemmas/Sched.lean`.
-/
namespace LdarModel.Sched


/-- the day's work plan (site ids, in the order the requests were popped) -/
def planOf (c : Cfg) (d : DayIn) (s : State) : List Nat := (dayTrace c d s).keys

/-- planned requests whose survey completed today / did not complete today -/
def completedOf (c : Cfg) (d : DayIn) (s : State) : List Nat :=
  (planOf c d s).filter (fun i => isComplete ((dayTrace c d s).afterDeploy i))

def requeuedOf (c : Cfg) (d : DayIn) (s : State) : List Nat :=
  (planOf c d s).filter (fun i => !isComplete ((dayTrace c d s).afterDeploy i))

/-- requests that stayed in the queue today -/
def waitingOf (c : Cfg) (d : DayIn) (s : State) : Queue := (dayTrace c d s).remaining

/-- a site never has two outstanding requests; the planner's flag says exactly "in the queue" -/
def Outstanding (s : State) : Prop :=
  s.q.sites.Nodup ∧ ∀ i, (s.pl i).queued = true ↔ i ∈ s.q.sites

/-- pop order is the tuple order; `n` gets return the `n` smallest; a survey in progress is in
class 1 and is popped before every request that is not in progress -/
def Priority (s : State) : Prop :=
  s.q.entries.Pairwise keyLt ∧
  (∀ n, (s.q.takeN n).1 = s.q.entries.take n) ∧
  (∀ e ∈ s.q.entries, (e.cls = prioUnfinished ↔ inProgress (s.pl e.site) = true)) ∧
  (∀ e1 ∈ s.q.entries, ∀ e2 ∈ s.q.entries, inProgress (s.pl e1.site) = true →
      inProgress (s.pl e2.site) = false → keyLt e1 e2)

/-- what one scheduled day does to the requests -/
structure DayOK (c : Cfg) (s : State) (d : DayIn) : Prop where
  /-- the site-keyed work plan holds every popped request (no key overwritten), no site twice,
  and no planned site is still waiting in the queue -/
  plan_is_taken : (dayTrace c d s).taken.map (·.site) = planOf c d s
  plan_nodup : (planOf c d s).Nodup
  plan_not_waiting : ∀ i ∈ planOf c d s, i ∉ (waitingOf c d s).sites
  /-- taken = completed ⊎ re-queued -/
  split : (planOf c d s).Perm (completedOf c d s ++ requeuedOf c d s)
  /-- the queue after the day = the waiting requests plus exactly the not-completed planned ones -/
  queue_after : (scheduleDay c d s).q.sites.Perm ((waitingOf c d s).sites ++ requeuedOf c d s)
  /-- every planned request has a report after deployment -/
  one_report : ∀ i ∈ planOf c d s, ((dayTrace c d s).afterDeploy i).rep.isSome = true
  /-- a completed survey is counted exactly once, on today's year; nothing else is counted -/
  counted_once : ∀ i y, done ((scheduleDay c d s).pl i) y =
      done (s.pl i) y + (if i ∈ completedOf c d s ∧ y = d.date.y then 1 else 0)
  /-- FIFO: the re-queued entries, listed in plan order, carry strictly increasing counters, all
  larger than the counter of every waiting entry -/
  fifo : ∃ news : List Entry,
      (scheduleDay c d s).q.entries.Perm ((waitingOf c d s).entries ++ news) ∧
      news.map (·.site) = requeuedOf c d s ∧
      news.Pairwise (fun a b => a.fifo < b.fifo) ∧
      (∀ w ∈ (waitingOf c d s).entries, ∀ e ∈ news, w.fifo < e.fifo) ∧
      (∀ e ∈ news, e.cls = requeueClass ((dayTrace c d s).afterDeploy e.site))

/-- the property at full strength, for routine, stationary and follow-up schedules -/
def C07_statement : Prop :=
  ∀ (c : Cfg) (ops : List Op), c.sites.Nodup → RunOK c init ops →
    Outstanding (run c ops) ∧ Priority (run c ops) ∧ ∀ d, DayOK c (run c ops) d

/-! ### no duplicates -/

theorem C07_no_duplicates (c : Cfg) (ops : List Op) (hc : c.sites.Nodup) (hok : RunOK c init ops) :
    Outstanding (run c ops) :=
  ⟨(inv_run c hc ops hok).nodup, (inv_run c hc ops hok).flag⟩

/-! ### priority -/

theorem priority_of_inv (s : State) (h : Inv s) (hp : ClsPos s) : Priority s := by
  refine ⟨h.qwf.1, fun n => by rw [takeN_eq], h.cls1, ?_⟩
  intro e1 he1 e2 he2 h1 h2
  have c1 := (h.cls1 e1 he1).2 h1
  have c2 : e2.cls ≠ prioUnfinished := by
    intro hc; rw [(h.cls1 e2 he2).1 hc] at h2; exact Bool.noConfusion h2
  have p2 := hp e2 he2
  unfold keyLt prioUnfinished at *
  omega

theorem C07_priority (c : Cfg) (ops : List Op) (hc : c.sites.Nodup) (hok : RunOK c init ops) :
    Priority (run c ops) :=
  priority_of_inv _ (inv_run c hc ops hok) (clspos_run c hc ops hok)

/-- whoever is popped, everything with a smaller key is popped too: the `n` requests taken for a
day are a prefix of the pop order -/
theorem C07_taken_prefix (s : State) (h : Inv s) (n : Nat) (e1 e2 : Entry)
    (h1 : e1 ∈ s.q.entries) (h2 : e2 ∈ (s.q.takeN n).1) (hlt : keyLt e1 e2) : e1 ∈ (s.q.takeN n).1 := by
  rw [takeN_eq] at *
  simp only at *
  have hp := h.qwf.1
  rw [← List.take_append_drop n s.q.entries] at hp h1
  rw [List.pairwise_append] at hp
  rcases List.mem_append.1 h1 with h1 | h1
  · exact h1
  · exact absurd hlt (keyLt_asymm (hp.2.2 e2 h2 e1 h1))

/-- routine and stationary schedules (histories of days): the class is the whole state of the
request — 1 = survey in progress, 2 = planned before but not attended (report exists, not in
progress), 3 = never planned (no report) — hence in progress < unattended < new in pop order -/
theorem C07_routine_classes (c : Cfg) (ds : List DayIn) (hc : c.sites.Nodup) (hk : c.kind ≠ .followup) :
    let s := runDays c ds
    (∀ e ∈ s.q.entries, e.rate = 0 ∧
        (e.cls = prioUnfinished ↔ inProgress (s.pl e.site) = true) ∧
        (e.cls = prioNew ↔ (s.pl e.site).rep = none) ∧
        (e.cls = prioUnattended ↔ ((s.pl e.site).rep ≠ none ∧ inProgress (s.pl e.site) = false))) ∧
    (∀ e1 ∈ s.q.entries, ∀ e2 ∈ s.q.entries, (s.pl e1.site).rep ≠ none → (s.pl e2.site).rep = none →
        keyLt e1 e2) := by
  intro s
  obtain ⟨hi, hr⟩ := rinv_runDays c hc hk ds
  refine ⟨fun e he => ?_, fun e1 he1 e2 he2 hn1 hn2 => ?_⟩
  · obtain ⟨h0, h3, hx⟩ := hr e he
    have h1 := hi.cls1 e he
    refine ⟨h0, h1, h3, ?_⟩
    unfold prioUnfinished prioUnattended prioNew at *
    -- class 2 is what is left: not in progress (else class 1) and with a report (else class 3)
    constructor
    · intro h2
      refine ⟨fun hn => ?_, ?_⟩
      · have := h3.2 hn; omega
      · cases hip : inProgress ((runDays c ds).pl e.site)
        · rfl
        · have := h1.2 hip; omega
    · intro ⟨hn, hip⟩
      rcases hx with hx | hx | hx
      · rw [h1.1 hx] at hip; cases hip
      · exact hx
      · exact absurd (h3.1 hx) hn
  · obtain ⟨_, a3, hx⟩ := hr e1 he1
    have b3 := (hr e2 he2).2.1.2 hn2
    have a3 : e1.cls ≠ prioNew := fun h => hn1 (a3.1 h)
    unfold keyLt prioUnfinished prioUnattended prioNew at *
    omega

/-! ### one day -/

theorem mem_completedOf (c : Cfg) (d : DayIn) (s : State) (i : Nat) :
    i ∈ completedOf c d s ↔ completesAt c d s i = true := by
  unfold completedOf planOf
  rw [dayTrace_keys, dayTrace_afterDeploy, List.mem_filter, completesAt_iff]

theorem dayOK_of_inv (c : Cfg) (hc : c.sites.Nodup) (s : State) (h : Inv s) (d : DayIn) : DayOK c s d := by
  have h1 := inv_request c hc d.date s h
  obtain ⟨hpn, _, hdisj, _⟩ := plan_waiting c _ h1
  have hw : QWF (waiting c (requestPhase c d.date s)) := qwf_drop _ h1.qwf _
  refine ⟨?_, ?_, ?_, ?_, ?_, ?_, ?_, ?_⟩
  · unfold planOf
    rw [dayTrace_taken, dayTrace_keys, planKeys_eq c _ h1]
  · unfold planOf; rw [dayTrace_keys]; exact hpn
  · unfold planOf waitingOf
    rw [dayTrace_keys, dayTrace_remaining]
    exact hdisj
  · exact (List.filter_append_perm _ _).symm
  · unfold waitingOf requeuedOf planOf
    rw [scheduleDay_eq, dayTrace_remaining, dayTrace_keys, dayTrace_afterDeploy]
    exact finish_sites c d _ h1
  · unfold planOf
    rw [dayTrace_keys, dayTrace_afterDeploy]
    intro i hi
    rw [deployed_planned d hi]
    exact Option.isSome_iff_ne_none.2 (applyOutcome_rep_some _ _ _)
  · intro i y
    rw [day_done]
    simp only [mem_completedOf]
  · refine ⟨stamp (waiting c (requestPhase c d.date s)).next
      (requeueItems c.kind (deployed c d (requestPhase c d.date s)) (planKeys c (requestPhase c d.date s))),
      ?_, ?_, stamp_increasing _ _, ?_, ?_⟩
    · unfold waitingOf
      rw [scheduleDay_eq, dayTrace_remaining]
      exact (putAll_spec _ hw _).2.1
    · unfold requeuedOf planOf
      rw [stamp_sites, requeueItems_sites, dayTrace_keys, dayTrace_afterDeploy]
    · unfold waitingOf
      rw [dayTrace_remaining]
      intro w hw' e he
      exact Nat.lt_of_lt_of_le (hw.2 w hw') (mem_stamp he).2.1
    · intro e he
      rw [dayTrace_afterDeploy]
      exact (of_mem_requeueItems (mem_stamp he).1).2.2.1

/-- conservation, one report each, counted once — for every reachable state and every day input -/
theorem C07_conservation (c : Cfg) (ops : List Op) (hc : c.sites.Nodup) (hok : RunOK c init ops)
    (d : DayIn) : DayOK c (run c ops) d :=
  dayOK_of_inv c hc _ (inv_run c hc ops hok) d

/-- FIFO within a class across re-queueing: of two requests put back today into the same class
(and rate), the one planned first is popped first; a waiting request of that class is popped before
both -/
theorem C07_fifo (c : Cfg) (ops : List Op) (hc : c.sites.Nodup) (hok : RunOK c init ops) (d : DayIn) :
    ∃ news : List Entry,
      (scheduleDay c d (run c ops)).q.entries.Perm ((waitingOf c d (run c ops)).entries ++ news) ∧
      news.map (·.site) = requeuedOf c d (run c ops) ∧
      news.Pairwise (fun a b => a.cls = b.cls → a.rate = b.rate → keyLt a b) ∧
      (∀ w ∈ (waitingOf c d (run c ops)).entries, ∀ e ∈ news, w.cls = e.cls → w.rate = e.rate → keyLt w e) := by
  obtain ⟨news, h1, h2, h3, h4, _⟩ := (C07_conservation c ops hc hok d).fifo
  refine ⟨news, h1, h2, h3.imp ?_, ?_⟩
  · intro a b hab hc hr; unfold keyLt; omega
  · intro w hw e he hc hr
    have := h4 w hw e he
    unfold keyLt; omega

theorem C07 : C07_statement := by
  intro c ops hc hok
  exact ⟨C07_no_duplicates c ops hc hok, C07_priority c ops hc hok, fun d => C07_conservation c ops hc hok d⟩

/-! ### minutes -/

/-- minutes in the report of the site's running survey (0 when there is none) -/
def surveyedOf (s : State) (i : Nat) : Int := ((s.pl i).rep.getD {}).surveyed

/-- minutes surveyed at site `i` on day `d` started in state `s` (0 when the site is not planned) -/
def minutesOfDay (c : Cfg) (d : DayIn) (s : State) (i : Nat) : Int :=
  if i ∈ planOf c d s then minutesToday (c.P i) (d.out i) ((requestPhase c d.date s).pl i) else 0

def completesOn (c : Cfg) (d : DayIn) (s : State) (i : Nat) : Bool := decide (i ∈ completedOf c d s)

/-- running sum of the daily minutes of the site's current survey: reset when a survey completes -/
def spentFrom (c : Cfg) (i : Nat) : State → Int → List DayIn → Int
  | _, acc, [] => acc
  | s, acc, d :: ds =>
    spentFrom c i (scheduleDay c d s) (if completesOn c d s i then 0 else acc + minutesOfDay c d s i) ds

theorem minutes_day (c : Cfg) (d : DayIn) (s : State) (i : Nat) (hnc : isComplete (s.pl i) = false) :
    (completesOn c d s i = true →
        surveyedOf s i + minutesOfDay c d s i = (c.P i).surveyTime ∧ surveyedOf (scheduleDay c d s) i = 0) ∧
    (completesOn c d s i = false →
        surveyedOf (scheduleDay c d s) i = surveyedOf s i + minutesOfDay c d s i) := by
  have hrq : ((requestPhase c d.date s).pl i).rep = (s.pl i).rep := by
    unfold requestPhase; simp only; split <;> rfl
  unfold completesOn completedOf minutesOfDay surveyedOf planOf
  rw [scheduleDay_eq, dayTrace_keys, dayTrace_afterDeploy]
  unfold finishDay
  simp only [List.mem_filter, decide_eq_true_eq, decide_eq_false_iff_not]
  by_cases hk : i ∈ planKeys c (requestPhase c d.date s)
  · have hdep : deployed c d (requestPhase c d.date s) i
        = applyOutcome (c.P i) (d.out i) ((requestPhase c d.date s).pl i) := by
      unfold deployed; simp [hk]
    simp only [hk, true_and, if_true, hdep]
    have hr0 : ((s.pl i).rep.getD {}).complete = false := by
      unfold isComplete at hnc
      cases hr : (s.pl i).rep <;> simp_all
    unfold applyOutcome minutesToday isComplete finish
    rw [hrq]
    cases d.out i with
    | completed =>
      -- today's minutes are what was missing of the survey time, and the finished report is dropped
      simp
      omega
    | progressed m => simp [hr0]  -- `m` more minutes on a report that stays incomplete
    | untouched => simp [hr0]
  · have hdep : deployed c d (requestPhase c d.date s) i = (requestPhase c d.date s).pl i := by
      unfold deployed; simp [hk]
    simp [hk, hdep, hrq]

/-- minutes add up: along any history of days the running sum of the minutes surveyed on the days
of the current survey equals the minutes in its report, and on the day a survey completes the sum
reaches exactly the site's survey time -/
theorem C07_minutes (c : Cfg) (hc : c.sites.Nodup) (i : Nat) (ds : List DayIn) (s : State) (h : Inv s) :
    spentFrom c i s (surveyedOf s i) ds = surveyedOf (ds.foldl (fun s d => scheduleDay c d s) s) i ∧
    (∀ d, completesOn c d s i = true → surveyedOf s i + minutesOfDay c d s i = (c.P i).surveyTime) := by
  refine ⟨?_, fun d hd => ((minutes_day c d s i (h.notComplete i)).1 hd).1⟩
  induction ds generalizing s with
  | nil => rfl
  | cons d ds ih =>
    simp only [spentFrom, List.foldl_cons]
    have hm := minutes_day c d s i (h.notComplete i)
    have h' := inv_scheduleDay c hc d s h
    cases hcp : completesOn c d s i
    · rw [← (hm.2 hcp)]; simp only [Bool.false_eq_true, if_false]; exact ih _ h'
    · simp only [if_true]
      rw [← ((hm.1 hcp).2)]
      exact ih _ h'

/-! ### frame: a day touches only the sites it issues a request for or plans -/

/-- the planner of a site that neither issues a request today nor is in today's work plan is left
exactly as it was, whatever happens to the other sites (their number, outcomes, names) — the model
has no state shared between planners or between histories -/
theorem untouched_site_frame (c : Cfg) (d : DayIn) (s : State) (i : Nat)
    (h1 : i ∉ issued c d.date s) (h2 : i ∉ planOf c d s) : (scheduleDay c d s).pl i = s.pl i := by
  unfold planOf at h2
  rw [dayTrace_keys] at h2
  rw [scheduleDay_eq]
  unfold finishDay deployed
  simp only [h2, false_and, if_false]
  unfold requestPhase
  simp only [h1, if_false]

/-! ### what `RunOK` assumes of the callers (F13) -/

/-- `OpOK` without the callers' guarantee that a site is first-flagged only while it has no
outstanding follow-up -/
def OpOKweak : Op → Prop
  | .day _ => True
  | .add cls _ _ => cls = prioUnattended ∨ cls = prioNew
  | .redetect _ _ cls => cls = 0 ∨ cls = prioUnattended ∨ cls = prioNew

def exFuDup : Cfg :=
  { kind := .followup, crews := 1, cap := 1, sites := [1, 2], P := fun _ => { surveyTime := 600 } }

/-- without that guarantee the follow-up queue does hold two requests of one site: two screening
methods that flag the same site into one follow-up schedule (known finding F13, recorded under C09)
— `no_duplicates` for follow-up schedules is exactly as strong as `RunOK` -/
theorem C07_followup_duplicate_counterexample :
    ¬ (∀ (c : Cfg) (ops : List Op), c.sites.Nodup → (∀ o ∈ ops, OpOKweak o) → Outstanding (run c ops)) := by
  intro h
  have := (h exFuDup [.add 3 1 5, .add 3 1 4] (by decide)
    (by intro o ho; simp at ho; rcases ho with rfl | rfl <;> simp [OpOKweak, prioNew])).1
  revert this
  decide +kernel

/-! ### routine schedules: whatever waits is a new request -/

/-- number of entries that are not in the default class -/
def oldCount (l : List Entry) : Nat := (l.filter (fun e => e.cls ≠ prioNew)).length

theorem oldCount_perm {l1 l2 : List Entry} (h : l1.Perm l2) : oldCount l1 = oldCount l2 :=
  (h.filter _).length_eq

theorem oldCount_append (l1 l2 : List Entry) : oldCount (l1 ++ l2) = oldCount l1 + oldCount l2 := by
  unfold oldCount; rw [List.filter_append, List.length_append]

theorem oldCount_eq_zero {l : List Entry} (h : ∀ e ∈ l, e.cls = prioNew) : oldCount l = 0 := by
  unfold oldCount
  rw [List.length_eq_zero_iff, List.filter_eq_nil_iff]
  intro e he; simp [h e he]

theorem drop_all_new (l : List Entry) (hs : l.Pairwise keyLt)
    (hcls : ∀ e ∈ l, e.cls = prioUnfinished ∨ e.cls = prioUnattended ∨ e.cls = prioNew)
    (n : Nat) (hn : oldCount l ≤ n) : ∀ e ∈ l.drop n, e.cls = prioNew := by
  intro e he
  apply Classical.byContradiction
  intro hne
  have hlen : n < l.length := by
    apply Classical.byContradiction
    intro h
    rw [List.drop_eq_nil_of_le (by omega)] at he
    simp at he
  have hsplit := hs
  rw [← List.take_append_drop n l, List.pairwise_append] at hsplit
  have htake : ∀ x ∈ l.take n, x.cls ≠ prioNew := by
    intro x hx hx3
    have hlt := hsplit.2.2 x hx e he
    have he' := hcls e (List.mem_of_mem_drop he)
    unfold keyLt prioUnfinished prioUnattended prioNew at *
    omega
  have h1 : oldCount (l.take n) = n := by
    unfold oldCount
    rw [List.filter_eq_self.2 (by intro x hx; simpa using htake x hx), List.length_take]
    omega
  have h2 : 1 ≤ oldCount (l.drop n) := by
    unfold oldCount
    have : e ∈ (l.drop n).filter (fun e => e.cls ≠ prioNew) := by
      rw [List.mem_filter]; exact ⟨he, by simpa using hne⟩
    exact List.length_pos_of_mem this
  have h3 : oldCount l = oldCount (l.take n) + oldCount (l.drop n) := by
    rw [← oldCount_append, List.take_append_drop]
  omega

/-- invariant of routine histories: at most `crews × capacity` entries are not new requests -/
theorem routine_old_bound (c : Cfg) (hc : c.sites.Nodup) (hk : c.kind = .routine) (ds : List DayIn) :
    oldCount (runDays c ds).q.entries ≤ c.crews * c.cap ∧
    ∀ d, ∀ e ∈ (waitingOf c d (runDays c ds)).entries, e.cls = prioNew := by
  have hkf : c.kind ≠ .followup := by rw [hk]; decide
  have step : ∀ (s : State) (d : DayIn), Inv s → RInv s → oldCount s.q.entries ≤ c.crews * c.cap →
      (∀ e ∈ (waitingOf c d s).entries, e.cls = prioNew) ∧
      oldCount (scheduleDay c d s).q.entries ≤ c.crews * c.cap := by
    intro s d hi hr hb
    have h1 := inv_request c hc d.date s hi
    have hr1 := rinv_request c d.date s hi hr
    -- the request phase only adds new requests
    have hb1 : oldCount (requestPhase c d.date s).q.entries ≤ c.crews * c.cap := by
      have hnew : oldCount (stamp s.q.next ((issued c d.date s).map (fun i => (prioNew, (0 : Int), i)))) = 0 :=
        oldCount_eq_zero fun e he => by
          obtain ⟨i, _, hieq⟩ := List.mem_map.1 (mem_stamp he).1
          exact (congrArg Prod.fst hieq).symm
      rw [request_q, oldCount_perm (putAll_spec s.q hi.qwf _).2.1, oldCount_append, hnew]
      exact hb
    have hwait : ∀ e ∈ (waitingOf c d s).entries, e.cls = prioNew := by
      unfold waitingOf
      rw [dayTrace_remaining]
      unfold waiting
      simp only [takeCount, hk]
      exact drop_all_new _ h1.qwf.1 (fun e he => (hr1 e he).2.2) _ hb1
    refine ⟨hwait, ?_⟩
    -- afterwards: the waiting requests, all new, and at most one entry per planned request
    obtain ⟨news, hperm, hsites, _, _, _⟩ := (dayOK_of_inv c hc s hi d).fifo
    rw [oldCount_perm hperm, oldCount_append, oldCount_eq_zero hwait, Nat.zero_add]
    have hnews : oldCount news ≤ news.length := List.length_filter_le _ _
    have h2 : news.length = (requeuedOf c d s).length := by rw [← hsites, List.length_map]
    have h3 : (requeuedOf c d s).length ≤ (planOf c d s).length := List.length_filter_le _ _
    have h4 : (planOf c d s).length ≤ c.crews * c.cap := by
      rw [← (dayOK_of_inv c hc s hi d).plan_is_taken, List.length_map, dayTrace_taken]
      simp only [takeCount, hk, List.length_take]
      omega
    omega
  have hfin := days_induct c (fun s => (Inv s ∧ RInv s) ∧ oldCount s.q.entries ≤ c.crews * c.cap) ds init
    ⟨⟨inv_init, rinv_init⟩, by simp [oldCount, init]⟩
    fun d _ s h => ⟨rinv_scheduleDay c hc hkf d s h.1, (step s d h.1.1 h.1.2 h.2).2⟩
  exact ⟨hfin.2, fun d => (step _ d hfin.1.1 hfin.1.2 hfin.2).1⟩

/-- **order stability across days (routine)**: a request that waits (is not taken) is always a new
request, so unfinished and unattended requests are taken on the very next day and two waiting
requests never change their relative order -/
theorem C07_routine_waiting_is_new (c : Cfg) (hc : c.sites.Nodup) (hk : c.kind = .routine)
    (ds : List DayIn) (d : DayIn) :
    ∀ e ∈ (waitingOf c d (runDays c ds)).entries, e.cls = prioNew :=
  (routine_old_bound c hc hk ds).2 d

/-! ### the crew arithmetic behind the outcomes (refinement of `Model/Crew.lean`) -/

/-- the schedule-level outcome of one `survey_site` call of the crew model -/
def outcomeOfStep (o : Crew.StepOut) : Outcome :=
  match o.branch with
  | .complete => .completed
  | .partial_ => .progressed o.today
  | _ => .untouched

/-- the fields of the crew model's report that the schedule model keeps -/
def crewReport (r : Report) : Crew.Report :=
  { surveyed := r.surveyed, complete := r.complete, inProgress := r.inProgress }

/-- **refinement**: feeding the schedule model the outcome computed by the crew model's `surveyStep`
(any remaining minutes `R`, travel time `T`, weather) leaves exactly the report `applyStep` leaves
(minutes, complete, in progress), and the day's minutes are the step's `today` -/
theorem applyOutcome_refines_step (p : PlannerP) (ps : PlannerS) (R S T : Int) (st w : Bool)
    (hS : p.surveyTime = Crew.effS st S) :
    ∃ rep', (applyOutcome p (outcomeOfStep (Crew.surveyStep R S T (ps.rep.getD {}).surveyed st w)) ps).rep = some rep' ∧
      crewReport rep' = { Crew.applyStep (crewReport (ps.rep.getD {}))
                            (Crew.surveyStep R S T (ps.rep.getD {}).surveyed st w) with today := 0, travel := 0 } ∧
      minutesToday p (outcomeOfStep (Crew.surveyStep R S T (ps.rep.getD {}).surveyed st w)) ps
        = (Crew.surveyStep R S T (ps.rep.getD {}).surveyed st w).today := by
  generalize hr0 : ps.rep.getD {} = r
  unfold Crew.surveyStep
  by_cases hw : w = true
  · subst hw
    simp only [Bool.not_true, Bool.false_eq_true, if_false]
    split
    · refine ⟨_, rfl, ?_, ?_⟩ <;> simp [outcomeOfStep, minutesToday, crewReport, Crew.applyStep, hS, hr0]
    · split
      · refine ⟨_, rfl, ?_, ?_⟩ <;>
          simp [outcomeOfStep, minutesToday, crewReport, Crew.applyStep, hr0]
      · refine ⟨_, rfl, ?_, ?_⟩ <;>
          simp [outcomeOfStep, minutesToday, crewReport, Crew.applyStep, hr0]
  · have : w = false := by cases w <;> simp_all
    subst this
    simp only [Bool.not_false, if_true]
    refine ⟨_, rfl, ?_, ?_⟩ <;> simp [outcomeOfStep, minutesToday, crewReport, Crew.applyStep, hr0]

/-- **minutes add up, with the crew arithmetic** (`Lemmas/Crew.lean`, re-stated here so that it is
audited under C07): over the days of one survey — any crew minutes left, travel times, weather,
crew shortage — the daily minutes sum to the report's minutes; at completion that is the survey
time; while in progress `0 < P < S`; before the first visit `P = 0` -/
theorem minutes_add_up_crew (stationary : Bool) (S : Int) (hS : 0 ≤ S) (days : List Crew.DayIn)
    (hd : ∀ d ∈ days, 0 ≤ d.R ∧ 0 ≤ d.T) :
    let r := Crew.surveyRun stationary S days {} 0
    r.2 = r.1.surveyed ∧
    (r.1.complete = true → r.2 = Crew.effS stationary S) ∧
    (r.1.complete = false → r.1.inProgress = true → 0 < r.1.surveyed ∧ r.1.surveyed < S) ∧
    (r.1.complete = false → r.1.inProgress = false → r.1.surveyed = 0) :=
  Crew.minutes_add_up_fresh stationary S hS days hd

/-! ### the names used in DESIGN.md 5.7 / Appendix E -/

theorem conservation (c : Cfg) (ops : List Op) (hc : c.sites.Nodup) (hok : RunOK c init ops) (d : DayIn) :
    DayOK c (run c ops) d := C07_conservation c ops hc hok d

theorem no_duplicates (c : Cfg) (ops : List Op) (hc : c.sites.Nodup) (hok : RunOK c init ops) :
    Outstanding (run c ops) := C07_no_duplicates c ops hc hok

theorem priority (c : Cfg) (ops : List Op) (hc : c.sites.Nodup) (hok : RunOK c init ops) :
    Priority (run c ops) := C07_priority c ops hc hok

/-- over the days of one survey the minutes add up: the running sum of the daily minutes (reset at
each completion) is what the report holds, and on the day the survey completes the sum plus
today's minutes is exactly the site's survey time -/
theorem minutes_add_up (c : Cfg) (hc : c.sites.Nodup) (i : Nat) (ds : List DayIn) :
    spentFrom c i init 0 ds = surveyedOf (runDays c ds) i ∧
    (∀ d, completesOn c d (runDays c ds) i = true →
        spentFrom c i init 0 ds + minutesOfDay c d (runDays c ds) i = (c.P i).surveyTime) := by
  have h1 := (C07_minutes c hc i ds init inv_init).1
  have h0 : surveyedOf init i = 0 := rfl
  rw [h0] at h1
  refine ⟨h1, ?_⟩
  intro d hd
  rw [h1]
  exact (C07_minutes c hc i [] (runDays c ds) (inv_runDays c hc ds)).2 d hd

/-! ### non-vacuity and a concrete multi-day history -/

/-- two sites, one crew with capacity 1; day 1: site 1 is started (200 of 300 minutes), day 2: site 1
finishes; site 2 waits in class 3 behind it on both days although its request is as old -/
def exCfg : Cfg :=
  { kind := .routine, crews := 1, cap := 1, sites := [1, 2],
    P := fun _ => { rs := 1, months := [1], depYears := [2024], simYears := [2024], plan := [(1, 1)],
                    surveyTime := 300 } }

def exDay1 : DayIn := { date := ⟨2024, 1, 10⟩, out := fun i => if i = 1 then .progressed 200 else .untouched }
def exDay2 : DayIn := { date := ⟨2024, 1, 11⟩, out := fun i => if i = 1 then .completed else .untouched }

example : exCfg.sites.Nodup ∧ RunOK exCfg init [.day exDay1, .day exDay2] := by decide

example :
    (run exCfg [.day exDay1]).q.entries.map (fun e => (e.cls, e.site)) = [(1, 1), (3, 2)] ∧
    planOf exCfg exDay2 (run exCfg [.day exDay1]) = [1] ∧
    completedOf exCfg exDay2 (run exCfg [.day exDay1]) = [1] ∧
    (run exCfg [.day exDay1, .day exDay2]).q.entries.map (fun e => (e.cls, e.site)) = [(3, 2)] ∧
    done ((run exCfg [.day exDay1, .day exDay2]).pl 1) 2024 = 1 ∧
    minutesOfDay exCfg exDay2 (run exCfg [.day exDay1]) 1 = 100 := by
  decide +kernel

/-- follow-up schedule (after repair 504bbc3): site 1's follow-up is in progress, it is re-detected
with class 3 and stays ahead of the newly flagged site 2 -/
def exFu : Cfg :=
  { kind := .followup, crews := 1, cap := 1, sites := [1, 2], P := fun _ => { surveyTime := 600 } }

example :
    let ops : List Op := [.add 3 1 5,
      .day { date := ⟨2024, 3, 1⟩, out := fun _ => .progressed 480 }, .add 3 2 3, .redetect 1 5 3]
    RunOK exFu init ops ∧ (run exFu ops).q.entries.map (fun e => (e.cls, e.rate, e.site)) = [(1, 5, 1), (3, 3, 2)] := by
  decide +kernel

end LdarModel.Sched
