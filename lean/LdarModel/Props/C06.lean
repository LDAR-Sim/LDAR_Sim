import LdarModel.Lemmas.Sched
/-
C06 — survey frequency contract.

Model: `Model/Planner.lean` (`guardRoutine`, `guardStationary`, `required`, `done`, `scheduleDay`,
`runDays`).  Dates are inputs `(year, month, day)` of each simulated day; the evenly spaced plan
dates are an input list of the planner.  A history is a list of days with the crew outcome of every
planned request as input.
-/
namespace LdarModel.Sched


/-- calendar order of the simulated days as far as the counters care: years never decrease -/
def Chrono (ds : List DayIn) : Prop := ds.Pairwise (fun a b => a.date.y ≤ b.date.y)

/-- the work plan of a day -/
def planOn (c : Cfg) (d : DayIn) (s : State) : List Nat := planKeys c (requestPhase c d.date s)

/-! ### calendar lemmas for the simulated years -/

/-- a one-day simulation has exactly its own year -/
theorem simYearsOf_single_day (d : Date) : simYearsOf d d = [d.y] := by
  unfold simYearsOf
  simp only
  rw [if_neg (by omega)]
  have h : d.y + 1 - d.y = 1 := by omega
  rw [h]; simp [List.range_succ]

/-- shifting a period by exactly one year shifts its years by one -/
theorem simYearsOf_shift (a b : Date) (hb : 1 ≤ b.y) :
    simYearsOf { a with y := a.y + 1 } { b with y := b.y + 1 } = (simYearsOf a b).map (· + 1) := by
  unfold simYearsOf
  simp only [List.map_map]
  -- the last counted year moves by one, the number of years stays
  have hE : (if a.m > b.m ∨ (a.m = b.m ∧ a.d > b.d) then b.y + 1 - 1 else b.y + 1)
      = (if a.m > b.m ∨ (a.m = b.m ∧ a.d > b.d) then b.y - 1 else b.y) + 1 := by split <;> omega
  rw [hE, show ∀ E, E + 1 + 1 - (a.y + 1) = E + 1 - a.y from fun E => by omega]
  exact List.map_congr_left fun x _ => by simp only [Function.comp]; omega

/-- a period that ends before the anniversary of its start date does not count its last calendar year
(the trailing partial year of known finding F12) -/
theorem simYearsOf_trailing_partial (a b : Date) (hb : 1 ≤ b.y) (h : a.m > b.m ∨ (a.m = b.m ∧ a.d > b.d)) :
    b.y ∉ simYearsOf a b := by
  unfold simYearsOf
  simp only [h, if_true, List.mem_map, List.mem_range]
  intro ⟨x, hx, he⟩
  omega

/-! ### requests are issued only under the guard -/

/-- a routine request is issued only for a planner of the method, on a day whose year is a
deployment year and whose month is a deployment month, with `done < required` for that year, no
outstanding request, and the plan date of the next survey reached -/
theorem requests_guarded (c : Cfg) (hk : c.kind = .routine) (s : State) (dt : Date) (i : Nat)
    (hi : i ∈ issued c dt s) :
    i ∈ c.sites ∧ dt.y ∈ (c.P i).depYears ∧ dt.m ∈ (c.P i).months ∧ (s.pl i).queued = false ∧
    done (s.pl i) dt.y < required (c.P i) dt.y ∧
    ∃ pd, (c.P i).plan[done (s.pl i) dt.y]? = some pd ∧ mdLe pd (dt.m, dt.d) := by
  obtain ⟨hs, hg⟩ := mem_issued.1 hi
  rw [hk] at hg
  exact ⟨hs, (guardRoutine_iff _ _ _).1 hg⟩

/-- the queue receives exactly the issued requests -/
theorem requests_enter_queue (c : Cfg) (dt : Date) (s : State) (h : Inv s) :
    (requestPhase c dt s).q.sites.Perm (s.q.sites ++ issued c dt s) :=
  request_sites c dt s h.qwf

/-- where the method is not deployed at the site (or the site has no frequency for a mobile method)
the planner built by the schedule requires 0 surveys in every year and never issues a request —
routine and stationary schedules (`generic_schedule.py:60-83`, `stationary_schedule.py`) -/
theorem not_deployed_never_requested (stationary : Bool) (freq : Option Nat) (deploy : Bool)
    (months years : List Nat) (plan : List (Nat × Nat)) (S : Int) (a b : Date)
    (hnd : deploy = false ∨ (stationary = false ∧ freq = none)) (k : Kind) (dt : Date) (ps : PlannerS) :
    (∀ y, required (mkPlannerP stationary freq deploy months years plan S a b) y = 0) ∧
    guardK k (mkPlannerP stationary freq deploy months years plan S a b) dt ps = false := by
  have hreq : ∀ y, required (mkPlannerP stationary freq deploy months years plan S a b) y = 0 := by
    intro y
    unfold required mkPlannerP
    rcases hnd with h | ⟨h1, h2⟩
    · subst h; cases stationary <;> cases freq <;> simp
    · subst h1; subst h2; simp
  exact ⟨hreq, guardK_of_required_zero (hreq dt.y) k ps⟩

/-! ### never more than required -/

/-- every survey that completes on some day of the history does so in a year for which the planner
requires at least one survey (a request carried over New Year does not land in a year without
deployment) -/
def CompletesOK (c : Cfg) : State → List DayIn → Prop
  | _, [] => True
  | s, d :: ds => (∀ i, completesAt c d s i = true → 0 < required (c.P i) d.date.y) ∧
      CompletesOK c (scheduleDay c d s) ds

/-- invariant behind `done ≤ required` (year `Y` = year of the last simulated day) -/
structure CountInv (c : Cfg) (s : State) (Y : Nat) : Prop where
  past : ∀ i, ∀ y ∈ (s.pl i).log, y ≤ Y
  open_ : ∀ i, (s.pl i).queued = true → done (s.pl i) Y < required (c.P i) Y ∨ done (s.pl i) Y = 0
  le : ∀ i y, done (s.pl i) y ≤ required (c.P i) y

theorem countInv_roll (c : Cfg) (s : State) (Y Y' : Nat) (h : CountInv c s Y) (hY : Y ≤ Y') :
    CountInv c s Y' := by
  refine ⟨fun i y hy => Nat.le_trans (h.past i y hy) hY, ?_, h.le⟩
  intro i hq
  by_cases he : Y' = Y
  · subst he; exact h.open_ i hq
  · right
    unfold done
    rw [List.count_eq_zero]
    intro hin
    have := h.past i Y' hin
    omega

theorem countInv_day (c : Cfg) (hc : c.sites.Nodup) (hk : c.kind = .routine) (d : DayIn) (s : State)
    (hi : Inv s) (h : CountInv c s d.date.y)
    (hok : ∀ i, completesAt c d s i = true → 0 < required (c.P i) d.date.y) :
    CountInv c (scheduleDay c d s) d.date.y := by
  have h1 := inv_request c hc d.date s hi
  -- a request outstanding after the request phase was issued today under the guard or is an old one
  have hopen : ∀ i, ((requestPhase c d.date s).pl i).queued = true →
      done (s.pl i) d.date.y < required (c.P i) d.date.y ∨ done (s.pl i) d.date.y = 0 := by
    intro i hq
    rw [request_queued] at hq
    by_cases hiss : i ∈ issued c d.date s
    · exact .inl (requests_guarded c hk s d.date i hiss).2.2.2.2.1
    · exact h.open_ i (by simpa [hiss] using hq)
  refine ⟨?_, ?_, ?_⟩
  · intro i y hy
    rw [(day_site c d s i).1] at hy
    split at hy
    · rcases List.mem_cons.1 hy with rfl | hy
      · exact Nat.le_refl _
      · exact h.past i y hy
    · exact h.past i y hy
  · intro i hq
    rw [(day_site c d s i).2] at hq
    cases hcp : completesAt c d s i
    · rw [day_done, hcp]
      simpa using hopen i (by simpa [hcp] using hq)
    · simp [hcp] at hq
  · intro i y
    rw [day_done]
    split
    · rename_i hcy
      obtain ⟨hcp, rfl⟩ := hcy
      -- the completing request was outstanding after the request phase
      have := hopen i (planKeys_queued c _ h1 i ((completesAt_iff c d s i).1 hcp).1)
      have hpos := hok i hcp
      omega
    · exact h.le i y

theorem countInv_run (c : Cfg) (hc : c.sites.Nodup) (hk : c.kind = .routine) (ds : List DayIn) (s : State)
    (Y : Nat) (hi : Inv s) (h : CountInv c s Y) (hch : Chrono ds) (hY : ∀ d ∈ ds, Y ≤ d.date.y)
    (hok : CompletesOK c s ds) :
    ∀ i y, done ((ds.foldl (fun s d => scheduleDay c d s) s).pl i) y ≤ required (c.P i) y := by
  induction ds generalizing s Y with
  | nil => exact h.le
  | cons d ds ih =>
    simp only [List.foldl_cons]
    unfold Chrono at hch
    rw [List.pairwise_cons] at hch
    have hroll := countInv_roll c s Y d.date.y h (hY d (by simp))
    exact ih (scheduleDay c d s) d.date.y (inv_scheduleDay c hc d s hi)
      (countInv_day c hc hk d s hi hroll hok.1) hch.2 (fun d' hd' => hch.1 d' hd') hok.2

/-- **never more than required** (mobile routine methods): for every site, year and history whose
years do not decrease, provided no carried-over survey completes in a year for which the planner
requires none -/
theorem done_le_required_partial (c : Cfg) (hc : c.sites.Nodup) (hk : c.kind = .routine) (ds : List DayIn)
    (hch : Chrono ds) (hok : CompletesOK c init ds) (i y : Nat) :
    done ((runDays c ds).pl i) y ≤ required (c.P i) y := by
  unfold runDays
  refine countInv_run c hc hk ds init 0 inv_init ⟨?_, ?_, ?_⟩ hch (fun _ _ => Nat.zero_le _) hok i y
  · intro i y hy; simp [init] at hy
  · intro i hq; simp [init] at hq
  · intro i y; simp [init, done]

/-- the hypothesis is implied when every request completes in the year it was issued in: a request
is only issued while `done < required` -/
theorem completes_same_year_ok (c : Cfg) (hk : c.kind = .routine) (s : State) (d : DayIn) (i : Nat)
    (hiss : i ∈ issued c d.date s) : 0 < required (c.P i) d.date.y := by
  have := (requests_guarded c hk s d.date i hiss).2.2.2.2.1
  omega

/-! ### stationary methods: once per workable day -/

/-- every kind of schedule books a completed survey on the year of the completion day, exactly once -/
theorem counted_on_completion_year (c : Cfg) (d : DayIn) (s : State) (i y : Nat) :
    done ((scheduleDay c d s).pl i) y =
      done (s.pl i) y + (if completesAt c d s i = true ∧ y = d.date.y then 1 else 0) :=
  day_done c d s i y

/-- `stationary_once_per_workable_day` from any state satisfying the invariant -/
theorem stationary_day (c : Cfg) (hc : c.sites.Nodup) (hk : c.kind = .stationary)
    (s : State) (hi : Inv s) (d : DayIn) :
    (planOn c d s).Nodup ∧
    (∀ i, i ∈ planOn c d s ↔ ((s.pl i).queued = true ∨ i ∈ issued c d.date s)) ∧
    (∀ i ∈ c.sites, d.date.y ∈ (c.P i).depYears → d.date.m ∈ (c.P i).months →
        0 < required (c.P i) d.date.y → i ∈ planOn c d s) ∧
    (∀ i, completesAt c d s i = true ↔ (i ∈ planOn c d s ∧ d.out i = .completed)) ∧
    (∀ i y, done ((scheduleDay c d s).pl i) y =
        done (s.pl i) y + (if completesAt c d s i = true ∧ y = d.date.y then 1 else 0)) ∧
    (∀ i, i ∈ planOn c d s → d.out i ≠ .completed → i ∈ (scheduleDay c d s).q.sites) := by
  have h1 := inv_request c hc d.date s hi
  have hall : planOn c d s = (requestPhase c d.date s).q.sites := by
    unfold planOn
    rw [planKeys_eq c _ h1]
    simp only [takeCount, hk, List.take_length, Queue.sites]
  have hmem : ∀ i, i ∈ planOn c d s ↔ ((s.pl i).queued = true ∨ i ∈ issued c d.date s) := by
    intro i
    rw [hall, (requests_enter_queue c d.date s hi).mem_iff, List.mem_append, hi.flag i]
  have hcomp : ∀ i, completesAt c d s i = true ↔ (i ∈ planOn c d s ∧ d.out i = .completed) := by
    intro i
    rw [completesAt_iff]
    refine and_congr_right fun hk' => ?_
    rw [deployed_planned d hk']
    exact isComplete_applyOutcome _ _ _ (h1.notComplete i)
  refine ⟨?_, hmem, ?_, hcomp, counted_on_completion_year c d s, ?_⟩
  · rw [hall]; exact h1.nodup
  · intro i his hy hm hr
    rw [hmem]
    cases hq : (s.pl i).queued
    · right
      unfold issued
      rw [List.mem_filter]
      refine ⟨his, ?_⟩
      simp [guardK, hk, guardStationary, hy, hm, hq, hr]
    · left; rfl
  · intro i hip hno
    have hfin := inv_scheduleDay c hc d s hi
    apply (hfin.flag i).1
    rw [(day_site c d s i).2]
    have hncp : completesAt c d s i = false := by
      cases hcp : completesAt c d s i
      · rfl
      · exact absurd ((hcomp i).1 hcp).2 hno
    simp only [hncp, Bool.false_eq_true, if_false]
    rw [request_queued]
    rcases (hmem i).1 hip with hq | hiss
    · simp [hq]
    · simp [hiss]

/-! ### all of them when feasible -/

def mdLt (a b : Nat × Nat) : Prop := a.1 < b.1 ∨ (a.1 = b.1 ∧ a.2 < b.2)

def md (d : DayIn) : Nat × Nat := (d.date.m, d.date.d)

/-- crews suffice for every outstanding request and every planned survey completes the same day -/
def Feasible (c : Cfg) (d : DayIn) : Prop :=
  c.sites.length ≤ c.crews * c.cap ∧ ∀ i, d.out i = .completed

/-- nothing outstanding -/
def Quiet (s : State) : Prop := ∀ i, (s.pl i).queued = false

theorem quiet_queue_empty (s : State) (h : Inv s) (hq : Quiet s) : s.q.entries = [] := by
  cases he : s.q.entries with
  | nil => rfl
  | cons e es =>
    have : e.site ∈ s.q.sites := (mem_sites_iff _ _).2 ⟨e, by simp [he], rfl⟩
    have := (h.flag e.site).2 this
    rw [hq e.site] at this
    exact Bool.noConfusion this

/-- on a feasible day that starts with nothing outstanding, exactly the requests issued today are
planned and completed, and nothing is outstanding afterwards -/
theorem feasible_day (c : Cfg) (hc : c.sites.Nodup) (hk : c.kind = .routine) (d : DayIn) (s : State)
    (hi : Inv s) (hq : Quiet s) (hf : Feasible c d) :
    (∀ i, completesAt c d s i = decide (i ∈ issued c d.date s)) ∧ Quiet (scheduleDay c d s) := by
  have h1 := inv_request c hc d.date s hi
  have hperm := requests_enter_queue c d.date s hi
  have hempty : s.q.sites = [] := by unfold Queue.sites; rw [quiet_queue_empty s hi hq]; rfl
  rw [hempty, List.nil_append] at hperm
  have hlen : (requestPhase c d.date s).q.entries.length ≤ c.crews * c.cap := by
    have h2 : (requestPhase c d.date s).q.entries.length = (issued c d.date s).length := by
      have := hperm.length_eq
      simpa [Queue.sites] using this
    have h3 : (issued c d.date s).length ≤ c.sites.length := List.length_filter_le _ _
    have := hf.1
    omega
  have hkeys : planKeys c (requestPhase c d.date s) = (requestPhase c d.date s).q.sites := by
    rw [planKeys_eq c _ h1]
    simp only [takeCount, hk, Queue.sites]
    rw [List.take_of_length_le hlen]
  have hmem : ∀ i, i ∈ planKeys c (requestPhase c d.date s) ↔ i ∈ issued c d.date s := fun i => by
    rw [hkeys, hperm.mem_iff]
  have hcomp : ∀ i, completesAt c d s i = decide (i ∈ issued c d.date s) := by
    intro i
    unfold completesAt
    by_cases hiss : i ∈ issued c d.date s
    · rw [deployed_planned d ((hmem i).2 hiss), hf.2 i]
      simp [hmem, hiss, applyOutcome, isComplete]
    · simp [hmem, hiss]
  refine ⟨hcomp, ?_⟩
  intro i
  rw [(day_site c d s i).2, hcomp i, request_queued, hq i]
  by_cases hiss : i ∈ issued c d.date s <;> simp [hiss]

/-- the counter of one site over the days of one year when every day is feasible -/
def kStep (p : PlannerP) (k : Nat) (t : Nat × Nat) : Nat :=
  if t.1 ∈ p.months ∧ k < p.rs ∧ (∃ pd, p.plan[k]? = some pd ∧ mdLe pd t) then k + 1 else k

theorem feasible_year (c : Cfg) (hc : c.sites.Nodup) (hk : c.kind = .routine) (i : Nat) (his : i ∈ c.sites)
    (y : Nat) (hy : y ∈ (c.P i).depYears ∧ y ∈ (c.P i).simYears) (yr : List DayIn) (s : State)
    (hi : Inv s) (hq : Quiet s) (hf : ∀ d ∈ yr, Feasible c d) (hyr : ∀ d ∈ yr, d.date.y = y) :
    done ((yr.foldl (fun s d => scheduleDay c d s) s).pl i) y
      = (yr.map md).foldl (kStep (c.P i)) (done (s.pl i) y) := by
  induction yr generalizing s with
  | nil => rfl
  | cons d ds ih =>
    simp only [List.foldl_cons, List.map_cons]
    have hfd := feasible_day c hc hk d s hi hq (hf d (by simp))
    have hdy : d.date.y = y := hyr d (by simp)
    have hstep : done ((scheduleDay c d s).pl i) y = kStep (c.P i) (done (s.pl i) y) (md d) := by
      unfold done
      rw [(day_site c d s i).1, hfd.1 i]
      have hreq : required (c.P i) y = (c.P i).rs := required_eq hy
      have hiss : i ∈ issued c d.date s ↔
          ((md d).1 ∈ (c.P i).months ∧ List.count y (s.pl i).log < (c.P i).rs ∧
            ∃ pd, (c.P i).plan[List.count y (s.pl i).log]? = some pd ∧ mdLe pd (md d)) := by
        rw [mem_issued, hk]
        show _ ∧ guardRoutine _ _ _ = true ↔ _
        rw [guardRoutine_iff]
        simp [his, hdy, hy.1, hq i, done, hreq, md]
      unfold kStep
      by_cases hc' : i ∈ issued c d.date s
      · simp only [hc', decide_true, if_true, List.count_cons, hdy, BEq.rfl]
        rw [if_pos (hiss.1 hc')]
      · simp only [hc', decide_false, Bool.false_eq_true, if_false]
        rw [if_neg (fun h => hc' (hiss.2 h))]
    rw [← hstep]
    exact ih (scheduleDay c d s) (inv_scheduleDay c hc d s hi) hfd.2
      (fun d' hd' => hf d' (by simp [hd'])) (fun d' hd' => hyr d' (by simp [hd']))

theorem mdLe_refl (a : Nat × Nat) : mdLe a a := by unfold mdLe; omega

theorem mdLt_not_le {a b : Nat × Nat} (h : mdLt a b) : ¬ mdLe b a := by unfold mdLt mdLe at *; omega

theorem mdLt_ne {a b : Nat × Nat} (h : mdLt a b) : a ≠ b := by
  intro he; subst he; unfold mdLt at h; omega

theorem mdLt_trans {a b c : Nat × Nat} (h1 : mdLt a b) (h2 : mdLt b c) : mdLt a c := by
  unfold mdLt at *; omega

/-- the pure counting argument: dates strictly increasing, plan strictly increasing, every plan date
from index `k` on is still among the coming dates and lies in a deployment month ⇒ the counter ends
at the number of plan dates -/
theorem year_count (p : PlannerP) (hlen : p.plan.length = p.rs) (hps : p.plan.Pairwise mdLt)
    (dates : List (Nat × Nat)) (k : Nat) (hk : k ≤ p.plan.length) (hds : dates.Pairwise mdLt)
    (hin : ∀ pd ∈ p.plan.drop k, pd ∈ dates ∧ pd.1 ∈ p.months) :
    dates.foldl (kStep p) k = p.plan.length := by
  induction dates generalizing k with
  | nil =>
    simp only [List.foldl_nil]
    cases hd : p.plan.drop k with
    | nil => have := List.drop_eq_nil_iff.1 hd; omega
    | cons x xs => have := (hin x (by simp [hd])).1; simp at this
  | cons t ts ih =>
    rw [List.pairwise_cons] at hds
    -- whatever the step does, the plan dates still to come are later than `t`, hence among `ts`
    suffices h : ∃ k', kStep p k t = k' ∧ k ≤ k' ∧ k' ≤ p.plan.length ∧ ∀ pd ∈ p.plan.drop k', mdLt t pd by
      obtain ⟨k', e, hkk', hk', hlt⟩ := h
      rw [List.foldl_cons, e]
      refine ih k' hk' hds.2 fun pd hpd => ?_
      have hsub : pd ∈ p.plan.drop k := by
        rw [show k' = k + (k' - k) by omega, ← List.drop_drop] at hpd
        exact List.mem_of_mem_drop hpd
      exact ⟨(List.mem_cons.1 (hin pd hsub).1).resolve_left fun h => mdLt_ne (hlt pd hpd) h.symm,
        (hin pd hsub).2⟩
    by_cases hkl : k = p.plan.length
    · refine ⟨k, by unfold kStep; rw [if_neg]; omega, Nat.le_refl _, hk, ?_⟩
      rw [hkl, List.drop_length]; simp
    · have hklt : k < p.plan.length := by omega
      have hdrop : p.plan.drop k = p.plan[k] :: p.plan.drop (k + 1) := List.drop_eq_getElem_cons hklt
      have hget : p.plan[k]? = some p.plan[k] := List.getElem?_eq_getElem hklt
      have hpdrop : (p.plan.drop k).Pairwise mdLt := hps.sublist (List.drop_sublist _ _)
      rw [hdrop, List.pairwise_cons] at hpdrop
      have hpk := hin p.plan[k] (hdrop ▸ List.mem_cons_self)
      rcases List.mem_cons.1 hpk.1 with heq | hmem
      · -- today is the next plan date
        refine ⟨k + 1, ?_, by omega, by omega, fun pd hpd => heq ▸ hpdrop.1 pd hpd⟩
        unfold kStep
        rw [if_pos]
        exact ⟨heq ▸ hpk.2, by omega, p.plan[k], hget, by rw [heq]; exact mdLe_refl _⟩
      · -- the next plan date is still to come
        have hlt : mdLt t p.plan[k] := hds.1 _ hmem
        refine ⟨k, ?_, Nat.le_refl _, hk, fun pd hpd => ?_⟩
        · unfold kStep
          rw [if_neg]
          rintro ⟨_, _, pd, hpd, hle⟩
          rw [hget] at hpd
          cases hpd
          exact mdLt_not_le hlt hle
        · rw [hdrop] at hpd
          rcases List.mem_cons.1 hpd with rfl | h2
          · exact hlt
          · exact mdLt_trans hlt (hpdrop.1 pd h2)

theorem log_years (c : Cfg) (ds : List DayIn) (s : State) (i y : Nat)
    (hy : y ∈ ((ds.foldl (fun s d => scheduleDay c d s) s).pl i).log) :
    y ∈ (s.pl i).log ∨ ∃ d ∈ ds, d.date.y = y := by
  induction ds generalizing s with
  | nil => left; exact hy
  | cons d ds ih =>
    simp only [List.foldl_cons] at hy
    rcases ih _ hy with h | ⟨d', hd', he⟩
    · rw [(day_site c d s i).1] at h
      split at h
      · rcases List.mem_cons.1 h with rfl | h
        · right; exact ⟨d, by simp, rfl⟩
        · left; exact h
      · left; exact h
    · right; exact ⟨d', by simp [hd'], he⟩

theorem feasible_quiet (c : Cfg) (hc : c.sites.Nodup) (hk : c.kind = .routine) (ds : List DayIn) (s : State)
    (hi : Inv s) (hq : Quiet s) (hf : ∀ d ∈ ds, Feasible c d) :
    Inv (ds.foldl (fun s d => scheduleDay c d s) s) ∧ Quiet (ds.foldl (fun s d => scheduleDay c d s) s) :=
  days_induct c (fun s => Inv s ∧ Quiet s) ds s ⟨hi, hq⟩ fun d hd s h =>
    ⟨inv_scheduleDay c hc d s h.1, (feasible_day c hc hk d s h.1 h.2 (hf d hd)).2⟩

/-- **all of them when feasible**, from any state in which nothing is outstanding at the first day
of the year (whatever happened before — crew shortage, weather — as long as it was worked off): if
on every day of year `y` the crews suffice and every planned survey completes the day it is requested,
the plan dates are strictly increasing, each of them is a simulated day of `y` and lies in a
deployment month, and `y` is a deployment year of the simulation, then after the days of `y` the site
has exactly its required number of surveys -/
theorem all_done_in_year_from_quiet (c : Cfg) (hc : c.sites.Nodup) (hk : c.kind = .routine) (i : Nat)
    (his : i ∈ c.sites) (y : Nat) (hy : y ∈ (c.P i).depYears ∧ y ∈ (c.P i).simYears)
    (s : State) (hi : Inv s) (hq : Quiet s) (h0 : done (s.pl i) y = 0)
    (yr : List DayIn) (hf : ∀ d ∈ yr, Feasible c d) (hyr : ∀ d ∈ yr, d.date.y = y)
    (hdates : (yr.map md).Pairwise mdLt)
    (hlen : (c.P i).plan.length = (c.P i).rs) (hplan : (c.P i).plan.Pairwise mdLt)
    (hin : ∀ pd ∈ (c.P i).plan, pd ∈ yr.map md ∧ pd.1 ∈ (c.P i).months) :
    done ((yr.foldl (fun s d => scheduleDay c d s) s).pl i) y = required (c.P i) y := by
  rw [feasible_year c hc hk i his y hy yr s hi hq hf hyr, h0, required_eq hy, ← hlen]
  exact year_count (c.P i) hlen hplan (yr.map md) 0 (Nat.zero_le _) hdates (by simpa using hin)

/-- the same for a history from the start of the simulation whose days before year `y` were feasible
too: they leave nothing outstanding -/
theorem all_done_when_feasible (c : Cfg) (hc : c.sites.Nodup) (hk : c.kind = .routine) (i : Nat)
    (his : i ∈ c.sites) (y : Nat) (hy : y ∈ (c.P i).depYears ∧ y ∈ (c.P i).simYears)
    (pre yr : List DayIn) (hf : ∀ d ∈ pre ++ yr, Feasible c d)
    (hpre : ∀ d ∈ pre, d.date.y ≠ y) (hyr : ∀ d ∈ yr, d.date.y = y)
    (hdates : (yr.map md).Pairwise mdLt)
    (hlen : (c.P i).plan.length = (c.P i).rs) (hplan : (c.P i).plan.Pairwise mdLt)
    (hin : ∀ pd ∈ (c.P i).plan, pd ∈ yr.map md ∧ pd.1 ∈ (c.P i).months) :
    done ((runDays c (pre ++ yr)).pl i) y = required (c.P i) y := by
  unfold runDays
  rw [List.foldl_append]
  have hpreq := feasible_quiet c hc hk pre init inv_init (fun _ => rfl) (fun d hd => hf d (by simp [hd]))
  refine all_done_in_year_from_quiet c hc hk i his y hy _ hpreq.1 hpreq.2 ?_ yr
    (fun d hd => hf d (by simp [hd])) hyr hdates hlen hplan hin
  unfold done
  rw [List.count_eq_zero]
  intro hmem
  rcases log_years c pre init i y hmem with h | ⟨d, hd, he⟩
  · simp [init] at h
  · exact hpre d hd he

/-- a stationary schedule plans, every day, exactly the sites that hold a request (carried from an
earlier day or issued today), each once; every deployed site holds one on every day of its
deployment calendar; a planned site is observed (its survey completes and is counted once) iff the
day is workable for it (crew outcome `completed`), otherwise the request is carried — for every
reachable state -/
theorem stationary_once_per_workable_day (c : Cfg) (hc : c.sites.Nodup) (hk : c.kind = .stationary)
    (ds : List DayIn) (d : DayIn) :
    let s := runDays c ds
    (planOn c d s).Nodup ∧
    (∀ i, i ∈ planOn c d s ↔ ((s.pl i).queued = true ∨ i ∈ issued c d.date s)) ∧
    (∀ i ∈ c.sites, d.date.y ∈ (c.P i).depYears → d.date.m ∈ (c.P i).months →
        0 < required (c.P i) d.date.y → i ∈ planOn c d s) ∧
    (∀ i, completesAt c d s i = true ↔ (i ∈ planOn c d s ∧ d.out i = .completed)) ∧
    (∀ i y, done ((scheduleDay c d s).pl i) y =
        done (s.pl i) y + (if completesAt c d s i = true ∧ y = d.date.y then 1 else 0)) ∧
    (∀ i, i ∈ planOn c d s → d.out i ≠ .completed → i ∈ (scheduleDay c d s).q.sites) :=
  stationary_day c hc hk (runDays c ds) (inv_runDays c hc ds) d

/-- the stationary request guard does not look at the number of surveys done -/
theorem stationary_guard_ignores_done (p : PlannerP) (dt : Date) (s : PlannerS) (l : List Nat) :
    guardStationary p dt { s with log := l } = guardStationary p dt s := rfl

/-- **stationary, fully workable period** (in particular a complete leap year): if every day of the
history lies in the site's deployment calendar and is workable for every site, the site is observed
on every single day — the count for year `y` is the number of simulated days of `y` (366 in a leap
year, although the planner's nominal requirement is 365) -/
theorem stationary_every_workable_day (c : Cfg) (hc : c.sites.Nodup) (hk : c.kind = .stationary) (i : Nat)
    (his : i ∈ c.sites) (ds : List DayIn) (s : State) (hi : Inv s) (hq : (s.pl i).queued = false)
    (hcal : ∀ d ∈ ds, d.date.y ∈ (c.P i).depYears ∧ d.date.m ∈ (c.P i).months ∧ 0 < required (c.P i) d.date.y)
    (hw : ∀ d ∈ ds, d.out i = .completed) (y : Nat) :
    done ((ds.foldl (fun s d => scheduleDay c d s) s).pl i) y
      = done (s.pl i) y + (ds.filter (fun d => d.date.y = y)).length ∧
    ((ds.foldl (fun s d => scheduleDay c d s) s).pl i).queued = false := by
  induction ds generalizing s with
  | nil => simp [hq]
  | cons d ds ih =>
    simp only [List.foldl_cons]
    have hd := stationary_day c hc hk s hi d
    have hcd := hcal d (by simp)
    have hplan : i ∈ planOn c d s := hd.2.2.1 i his hcd.1 hcd.2.1 hcd.2.2
    have hcomp : completesAt c d s i = true := (hd.2.2.2.1 i).2 ⟨hplan, hw d (by simp)⟩
    have hq' : ((scheduleDay c d s).pl i).queued = false := by
      rw [(day_site c d s i).2, hcomp]; rfl
    have := ih (scheduleDay c d s) (inv_scheduleDay c hc d s hi) hq'
      (fun d' hd' => hcal d' (by simp [hd'])) (fun d' hd' => hw d' (by simp [hd']))
    refine ⟨?_, this.2⟩
    rw [this.1, counted_on_completion_year, hcomp, List.filter_cons]
    by_cases hy : d.date.y = y
    · simp [hy]; omega
    · have : ¬ (y = d.date.y) := fun h => hy h.symm
      simp [hy, this]

/-! ### never where the method is not deployed -/

def NeverIssued (c : Cfg) (i : Nat) : Prop := ∀ dt s, i ∉ issued c dt s

theorem neverIssued_of_guard (c : Cfg) (i : Nat) (h : ∀ dt ps, guardK c.kind (c.P i) dt ps = false) :
    NeverIssued c i := by
  intro dt s hi
  have := (mem_issued.1 hi).2
  rw [h] at this
  exact Bool.noConfusion this

theorem neverIssued_of_not_site (c : Cfg) (i : Nat) (h : i ∉ c.sites) : NeverIssued c i :=
  fun _ _ hi => h (mem_issued.1 hi).1

theorem neverIssued_of_rs_zero (c : Cfg) (i : Nat) (h : (c.P i).rs = 0) : NeverIssued c i :=
  neverIssued_of_guard c i fun dt ps =>
    guardK_of_required_zero (by unfold required; simp [h]) _ _

theorem neverIssued_day (c : Cfg) (i : Nat) (h : NeverIssued c i) (d : DayIn) (s : State)
    (hq : (s.pl i).queued = false) : ((scheduleDay c d s).pl i).queued = false := by
  rw [(day_site c d s i).2]
  split
  · rfl
  · rw [request_queued, hq]; simp [h d.date s]

theorem neverIssued_not_planned (c : Cfg) (hc : c.sites.Nodup) (i : Nat) (h : NeverIssued c i) (d : DayIn)
    (s : State) (hi : Inv s) (hq : (s.pl i).queued = false) : i ∉ planOn c d s := by
  intro hp
  have := planKeys_queued c _ (inv_request c hc d.date s hi) i hp
  rw [request_queued, hq] at this
  simp [h d.date s] at this

/-- **never where not deployed**: a site whose planner never passes the request guard (frequency 0
because the method is not deployed there, see `not_deployed_never_requested`) is never in a work
plan, on any day of any history -/
theorem not_deployed_never_planned (c : Cfg) (hc : c.sites.Nodup) (i : Nat)
    (h : ∀ dt ps, guardK c.kind (c.P i) dt ps = false) (ds : List DayIn) (d : DayIn) :
    i ∉ planOn c d (runDays c ds) ∧ ∀ y, done ((runDays c ds).pl i) y = 0 := by
  have hn := neverIssued_of_guard c i h
  have := days_induct c (fun s => Inv s ∧ (s.pl i).queued = false ∧ ∀ y, done (s.pl i) y = 0) ds init
    ⟨inv_init, rfl, fun y => by simp [init, done]⟩ fun d _ s ⟨a, b, c'⟩ => by
      refine ⟨inv_scheduleDay c hc d s a, neverIssued_day c i hn d s b, fun y => ?_⟩
      have hnc : ¬ completesAt c d s i = true := fun hcp =>
        neverIssued_not_planned c hc i hn d s a b ((completesAt_iff c d s i).1 hcp).1
      rw [day_done, c' y, if_neg (fun h => hnc h.1)]
  exact ⟨neverIssued_not_planned c hc i hn d _ this.1 this.2.1, this.2.2⟩

/-- the same for the planner a schedule builds for a site where the method is not deployed (or that
has no survey frequency for a mobile method): never planned, never counted -/
theorem not_deployed_never_surveyed (c : Cfg) (hc : c.sites.Nodup) (i : Nat)
    (stationary : Bool) (freq : Option Nat) (deploy : Bool) (months years : List Nat)
    (plan : List (Nat × Nat)) (S : Int) (a b : Date)
    (hP : c.P i = mkPlannerP stationary freq deploy months years plan S a b)
    (hnd : deploy = false ∨ (stationary = false ∧ freq = none)) (ds : List DayIn) (d : DayIn) :
    i ∉ planOn c d (runDays c ds) ∧ ∀ y, done ((runDays c ds).pl i) y = 0 := by
  apply not_deployed_never_planned c hc i
  intro dt ps
  rw [hP]
  exact (not_deployed_never_requested stationary freq deploy months years plan S a b hnd c.kind dt ps).2

/-! ### `done ≤ required` under a static, decidable hypothesis -/

/-- every deployed planner of the method has all simulated years among its deployment years and its
counter years (the default configuration: no deployment-year list, simulation ending on Dec 31) -/
def StaticYears (c : Cfg) (ds : List DayIn) : Prop :=
  ∀ i ∈ c.sites, (c.P i).rs = 0 ∨ ∀ d ∈ ds, d.date.y ∈ (c.P i).depYears ∧ d.date.y ∈ (c.P i).simYears

instance (c : Cfg) (ds : List DayIn) : Decidable (StaticYears c ds) := by unfold StaticYears; infer_instance

theorem completesOK_of_static (c : Cfg) (hc : c.sites.Nodup) (ds : List DayIn) (hs : StaticYears c ds)
    (s : State) (hi : Inv s) (hq : ∀ i, NeverIssued c i → (s.pl i).queued = false) : CompletesOK c s ds := by
  induction ds generalizing s with
  | nil => trivial
  | cons d ds ih =>
    refine ⟨?_, ?_⟩
    · intro i hcp
      have hkeys : i ∈ planOn c d s := ((completesAt_iff c d s i).1 hcp).1
      -- a site that never issues a request is never planned
      have hni : ¬ NeverIssued c i := fun hn =>
        neverIssued_not_planned c hc i hn d s hi (hq i hn) hkeys
      have his : i ∈ c.sites := Classical.byContradiction fun h => hni (neverIssued_of_not_site c i h)
      have h0 : (c.P i).rs ≠ 0 := fun h => hni (neverIssued_of_rs_zero c i h)
      rcases hs i his with h | hy
      · exact absurd h h0
      · rw [required_eq (hy d (by simp))]; omega
    · apply ih
      · intro i hi'
        rcases hs i hi' with h | h
        · left; exact h
        · right; intro d' hd'; exact h d' (by simp [hd'])
      · exact inv_scheduleDay c hc d s hi
      · intro i hn; exact neverIssued_day c i hn d s (hq i hn)

/-- **never more than required, static form**: no run-dependent hypothesis — it is enough that the
simulated years are deployment years and counter years of every deployed planner -/
theorem done_le_required_static (c : Cfg) (hc : c.sites.Nodup) (hk : c.kind = .routine) (ds : List DayIn)
    (hch : Chrono ds) (hs : StaticYears c ds) (i y : Nat) :
    done ((runDays c ds).pl i) y ≤ required (c.P i) y :=
  done_le_required_partial c hc hk ds hch
    (completesOK_of_static c hc ds hs init inv_init (fun _ _ => rfl)) i y

/-! ### calendar: what does hold -/

/-- a site planned on a day outside its deployment calendar holds a request *carried* from an earlier
day (routine and stationary schedules): only carried requests can be served outside the calendar -/
theorem calendar_partial (c : Cfg) (hc : c.sites.Nodup) (s : State) (hi : Inv s) (d : DayIn) (i : Nat)
    (hp : i ∈ planOn c d s) (hout : ¬ (d.date.y ∈ (c.P i).depYears ∧ d.date.m ∈ (c.P i).months)) :
    (s.pl i).queued = true := by
  have := planKeys_queued c _ (inv_request c hc d.date s hi) i hp
  rw [request_queued] at this
  by_cases hiss : i ∈ issued c d.date s
  · have h := guardK_calendar (mem_issued.1 hiss).2
    exact absurd ⟨h.1, h.2.1⟩ hout
  · simpa [hiss] using this

/-- when nothing is carried (every request so far completed the day it was issued) every planned
site is inside its deployment calendar -/
theorem calendar_when_nothing_carried (c : Cfg) (hc : c.sites.Nodup) (s : State) (hi : Inv s)
    (hq : ∀ i, (s.pl i).queued = false) (d : DayIn) (i : Nat) (hp : i ∈ planOn c d s) :
    d.date.y ∈ (c.P i).depYears ∧ d.date.m ∈ (c.P i).months := by
  apply Classical.byContradiction
  intro hout
  have := calendar_partial c hc s hi d i hp hout
  rw [hq i] at this
  exact Bool.noConfusion this

/-! ### the property at full strength, and what is false of the code as it stands -/

instance (a b : Nat × Nat) : Decidable (mdLt a b) := by unfold mdLt; infer_instance

/-- never more than required (mobile routine), with no side condition -/
def C06_count_statement : Prop :=
  ∀ (c : Cfg) (ds : List DayIn), c.kind = .routine → c.sites.Nodup → Chrono ds →
    ∀ i y, done ((runDays c ds).pl i) y ≤ required (c.P i) y

/-- routine surveys take place only in deployment years and deployment months: whenever a planned
site is worked on, the day lies in the site's deployment calendar -/
def C06_calendar_statement : Prop :=
  ∀ (c : Cfg) (ds : List DayIn) (d : DayIn), c.kind ≠ .followup → c.sites.Nodup → Chrono (ds ++ [d]) →
    ∀ i ∈ planOn c d (runDays c ds), d.out i ≠ .untouched →
      d.date.y ∈ (c.P i).depYears ∧ d.date.m ∈ (c.P i).months

/-- all of them when feasible, for *every* plan the planner may hold (one date per required survey,
increasing, each a simulated day of the year) — nothing assumed about the months of the plan dates -/
def C06_feasible_statement : Prop :=
  ∀ (c : Cfg) (i y : Nat) (pre yr : List DayIn), c.kind = .routine → c.sites.Nodup → i ∈ c.sites →
    (y ∈ (c.P i).depYears ∧ y ∈ (c.P i).simYears) → (∀ d ∈ pre ++ yr, Feasible c d) →
    (∀ d ∈ pre, d.date.y ≠ y) → (∀ d ∈ yr, d.date.y = y) → (yr.map md).Pairwise mdLt →
    (c.P i).plan.length = (c.P i).rs → (c.P i).plan.Pairwise mdLt →
    (∀ pd ∈ (c.P i).plan, pd ∈ yr.map md) →
    done ((runDays c (pre ++ yr)).pl i) y = required (c.P i) y

/-- stationary: once per workable day -/
def C06_stationary_statement : Prop :=
  ∀ (c : Cfg) (ds : List DayIn) (d : DayIn), c.sites.Nodup → c.kind = .stationary →
    (planOn c d (runDays c ds)).Nodup ∧
    (∀ i ∈ c.sites, d.date.y ∈ (c.P i).depYears → d.date.m ∈ (c.P i).months →
        0 < required (c.P i) d.date.y → i ∈ planOn c d (runDays c ds)) ∧
    (∀ i, completesAt c d (runDays c ds) i = true ↔ (i ∈ planOn c d (runDays c ds) ∧ d.out i = .completed)) ∧
    (∀ i y, done ((scheduleDay c d (runDays c ds)).pl i) y =
        done ((runDays c ds).pl i) y + (if completesAt c d (runDays c ds) i = true ∧ y = d.date.y then 1 else 0))

def C06_statement : Prop :=
  C06_count_statement ∧ C06_calendar_statement ∧ C06_feasible_statement ∧ C06_stationary_statement

theorem C06_stationary : C06_stationary_statement := by
  intro c ds d hc hk
  have := stationary_once_per_workable_day c hc hk ds d
  exact ⟨this.1, this.2.2.1, this.2.2.2.1, this.2.2.2.2.1⟩

/-- January-only deployment, one crew doing one site a day, two sites: both requests are issued on
Jan 31, site 2 is not attended that day and is surveyed on Feb 1 — outside the deployment months
(known finding F12) -/
def cexCfg : Cfg :=
  { kind := .routine, crews := 1, cap := 1, sites := [1, 2],
    P := fun _ => { rs := 1, months := [1], depYears := [2024], simYears := [2024], plan := [(1, 1)],
                    surveyTime := 60 } }

def allCompleted : Nat → Outcome := fun _ => .completed

theorem C06_calendar_counterexample : ¬ C06_calendar_statement := by
  intro h
  have := h cexCfg [{ date := ⟨2024, 1, 31⟩, out := allCompleted }] { date := ⟨2024, 2, 1⟩, out := allCompleted }
    (by decide) (by decide) (by unfold Chrono; decide) 2 (by decide +kernel) (by decide)
  revert this
  decide +kernel

theorem C06_counterexample : ¬ C06_statement := fun h => C06_calendar_counterexample h.2.1

/-- deployment year 2024 only, simulation 2024–2025: a request issued on Dec 31 2024 and completed on
Jan 1 2025 is booked on 2025, where 0 surveys are required (known finding F12, count side) -/
def cexCount : Cfg :=
  { kind := .routine, crews := 1, cap := 1, sites := [1, 2],
    P := fun _ => { rs := 1, months := [1, 12], depYears := [2024], simYears := [2024, 2025],
                    plan := [(1, 1)], surveyTime := 60 } }

theorem C06_count_counterexample : ¬ C06_count_statement := by
  intro h
  have := h cexCount [{ date := ⟨2024, 12, 31⟩, out := allCompleted }, { date := ⟨2025, 1, 1⟩, out := allCompleted }]
    rfl (by decide) (by unfold Chrono; decide) 2 2025
  revert this
  decide +kernel

/-- deployment months February, May, October with 4 surveys per year: the plan of the real
`_generate_evenly_spaced_dates` is Feb 1, Feb 23, May 17, **Nov 8** (regenerated from the source and
compared on every run); November is not a deployment month, so even with unlimited crews only 3
surveys happen (known finding F15) -/
def cexGap : Cfg :=
  { kind := .routine, crews := 1, cap := 5, sites := [1],
    P := fun _ => { rs := 4, months := [2, 5, 10], depYears := [2024], simYears := [2024],
                    plan := [(2, 1), (2, 23), (5, 17), (11, 8)], surveyTime := 60 } }

def cexGapYear : List DayIn :=
  [(1, 1), (2, 1), (2, 2), (2, 23), (5, 17), (5, 18), (10, 1), (10, 31), (11, 8), (11, 9), (12, 31)].map
    (fun t => { date := ⟨2024, t.1, t.2⟩, out := allCompleted })

theorem C06_feasible_counterexample : ¬ C06_feasible_statement := by
  intro h
  have := h cexGap 1 2024 [] cexGapYear rfl (by decide) (by decide) (by decide)
    (by intro d hd
        refine ⟨by decide, ?_⟩
        simp only [List.nil_append, cexGapYear, List.mem_map] at hd
        obtain ⟨t, _, rfl⟩ := hd
        intro i; rfl)
    (by intro d hd; simp at hd)
    (by intro d hd
        simp only [cexGapYear, List.mem_map] at hd
        obtain ⟨t, _, rfl⟩ := hd
        rfl)
    (by decide +kernel) rfl (by decide +kernel) (by decide +kernel)
  revert this
  decide +kernel

/-! ### non-vacuity -/

/-- `StaticYears` is decidable and holds for the ordinary configuration (and for the January witness) -/
example : StaticYears cexCfg
    [{ date := ⟨2024, 1, 31⟩, out := allCompleted }, { date := ⟨2024, 2, 1⟩, out := allCompleted }] := by decide

/-- … and fails exactly for the year-carry witness of `C06_count_counterexample` -/
example : ¬ StaticYears cexCount
    [{ date := ⟨2024, 12, 31⟩, out := allCompleted }, { date := ⟨2025, 1, 1⟩, out := allCompleted }] := by decide

/-- stationary schedule over New Year's Eve of a leap year and the following day, all workable: both
days are observed (the requirement 365 plays no role) -/
example :
    let c : Cfg := { kind := .stationary, crews := 1, cap := 1, sites := [1],
                     P := fun _ => { rs := 365, months := [1, 12], depYears := [2024, 2025],
                                     simYears := [2024, 2025] } }
    let ds : List DayIn := [{ date := ⟨2024, 12, 30⟩, out := allCompleted },
      { date := ⟨2024, 12, 31⟩, out := allCompleted }, { date := ⟨2025, 1, 1⟩, out := allCompleted }]
    done ((runDays c ds).pl 1) 2024 = 2 ∧ done ((runDays c ds).pl 1) 2025 = 1 := by
  decide +kernel

/-- a full-calendar configuration satisfying every hypothesis of `all_done_when_feasible`:
months Feb–May, 2 surveys, plan Feb 1 / Apr 1 -/
def exOk : Cfg :=
  { kind := .routine, crews := 1, cap := 3, sites := [1, 2],
    P := fun _ => { rs := 2, months := [2, 3, 4, 5], depYears := [2024], simYears := [2024],
                    plan := [(2, 1), (4, 1)], surveyTime := 60 } }

def exOkYear : List DayIn :=
  [(1, 31), (2, 1), (2, 2), (3, 31), (4, 1), (6, 1)].map (fun t => { date := ⟨2024, t.1, t.2⟩, out := allCompleted })

example : done ((runDays exOk ([] ++ exOkYear)).pl 1) 2024 = required (exOk.P 1) 2024 := by
  apply all_done_when_feasible exOk (by decide) rfl 1 (by decide) 2024 (by decide) [] exOkYear
  · intro d hd
    refine ⟨by decide, ?_⟩
    simp only [List.nil_append, exOkYear, List.mem_map] at hd
    obtain ⟨t, _, rfl⟩ := hd
    intro i; rfl
  · intro d hd; simp at hd
  · intro d hd
    simp only [exOkYear, List.mem_map] at hd
    obtain ⟨t, _, rfl⟩ := hd
    rfl
  · decide +kernel
  · rfl
  · decide +kernel
  · decide +kernel

example : done ((runDays exOk exOkYear).pl 1) 2024 = 2 ∧ done ((runDays exOk exOkYear).pl 2) 2024 = 2 := by
  decide +kernel

/-- `done_le_required_partial` applies to the January witness (every survey completes in 2024, a year
with one required survey): hypotheses satisfiable although the calendar clause fails there -/
example : CompletesOK cexCfg init
    [{ date := ⟨2024, 1, 31⟩, out := allCompleted }, { date := ⟨2024, 2, 1⟩, out := allCompleted }] := by
  unfold CompletesOK CompletesOK CompletesOK
  refine ⟨?_, ?_, trivial⟩ <;> intro i _ <;> exact (by decide : 0 < required (cexCfg.P 0) 2024)

end LdarModel.Sched
