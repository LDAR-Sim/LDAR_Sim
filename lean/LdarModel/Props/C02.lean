import LdarModel.Lemmas.Emission
import LdarModel.Lemmas.EmissionE
/-
C02 — mitigated = baseline emitted − program emitted, leak by leak.

Model: `Model/Emission.lean` (`run`, `baseline`, `emitDays`, `mitDays`, `summaryEndArg`).
The statement is over every repairable emission (any start, natural duration, delays), every
schedule of tag events and every horizon `N`.
-/
namespace LdarModel.Emission

/-- the property at full strength (persistent and intermittent repairable emissions) -/
def C02_statement : Prop :=
  ∀ (p : Params) (ev : Nat → List TagEv) (N : Nat), p.repairable = true →
    emitDays p (run p ev N) + mitDays p (run p ev N) (summaryEndArg N) = emitDays p (baseline p N)
    ∧ 0 ≤ mitDays p (run p ev N) (summaryEndArg N)
    ∧ (mitDays p (run p ev N) (summaryEndArg N) ≠ 0 →
        (run p ev N).status = .repaired ∧ ∃ c, (run p ev N).by_ = .company c)

/-- invariant of the no-LDAR run: nobody tags -/
private def NoTag (s : State) : Prop :=
  (s.status ≠ .repaired → s.tagged = false) ∧ (∀ c, s.by_ ≠ .company c)

private theorem noTag_day (p : Params) (n : Int) (s : State) (h : NoTag s) :
    NoTag (day p n [] s) := by
  have h1 : NoTag (activate p n s) := by unfold NoTag activate at *; grind
  have tf := toggle_frame p (counted p (activate p n s))
  unfold day; rw [List.foldl_nil, update_eq]
  generalize activate p n s = m at *
  unfold NoTag at *
  grind

theorem baseline_noTag (p : Params) (n : Nat) :
    ((baseline p n).status ≠ .repaired → (baseline p n).tagged = false) ∧
    (∀ c, (baseline p n).by_ ≠ .company c) := by
  induction n with
  | zero => exact ⟨fun _ => rfl, fun _ h => By.noConfusion h⟩
  | succ n ih => rw [baseline_step]; exact noTag_day p n _ ih

/-- the bound is `min (n − a) L`, and 0 up to day `a` -/
theorem inv_activeDays (p : Params) (n : Nat) (s : State) (h : Inv p n s) :
    s.activeDays ≤
      (if (n : Int) ≤ a p then 0 else (if (n : Int) - a p ≤ L p then (n : Int) - a p else L p)) ∧
    (¬ (s.status = .repaired ∧ s.by_ ≠ .natural) → s.activeDays =
      if (n : Int) ≤ a p then 0 else (if (n : Int) - a p ≤ L p then (n : Int) - a p else L p)) := by
  unfold Inv at h
  have hL := L_pos p
  cases hs : s.status <;> grind

/-- closed form of the no-LDAR run: active days after `N` simulated days -/
theorem baseline_activeDays (p : Params) (hr : p.repairable = true) (N : Nat) :
    (baseline p N).activeDays =
      if (N : Int) ≤ a p then 0 else (if (N : Int) - a p ≤ L p then (N : Int) - a p else L p) := by
  have hi := run_inv p hr noEvents N
  refine (inv_activeDays p N _ hi).2 fun ⟨hs, hby⟩ => ?_
  -- nobody tags: a repaired leak of the no-LDAR run ended naturally
  obtain ⟨c, hc⟩ := (hi.repaired_by hs).resolve_left hby
  exact (baseline_noTag p N).2 c hc

/-- program side: active days never exceed the baseline's, with equality unless a program repair
ended the leak -/
theorem run_activeDays (p : Params) (hr : p.repairable = true) (ev : Nat → List TagEv) (N : Nat) :
    (run p ev N).activeDays ≤ (baseline p N).activeDays ∧
    (¬ ((run p ev N).status = .repaired ∧ (run p ev N).by_ ≠ .natural) →
        (run p ev N).activeDays = (baseline p N).activeDays) := by
  rw [baseline_activeDays p hr N]
  exact inv_activeDays p N _ (run_inv p hr ev N)

theorem inv_mitDays (p : Params) (hr : p.repairable = true) (N : Nat) (s : State)
    (h : Inv p N s) :
    s.activeDays + mitDays p s N = (baseline p N).activeDays
    ∧ 0 ≤ mitDays p s N
    ∧ (mitDays p s N ≠ 0 → s.status = .repaired ∧ ∃ c, s.by_ = .company c) := by
  have hA := inv_activeDays p N s h
  rw [baseline_activeDays p hr N]
  by_cases hc : s.by_ ≠ .natural ∧ s.status = .repaired
  · obtain ⟨g1, g2, g3⟩ := h.repaired_days hc.2
    have hco := (h.repaired_by hc.2).resolve_left hc.1
    have hm : mitDays p s N =
        if p.nrd - s.activeDays - b4 p - (if p.start + p.nrd - N > 0 then p.start + p.nrd - N else 0) > 0
        then p.nrd - s.activeDays - b4 p - (if p.start + p.nrd - N > 0 then p.start + p.nrd - N else 0)
        else 0 := by
      unfold mitDays; simp [hr, hc]
    have hab := start_add_b4 p
    have hL := L_eq p
    clear hA h
    -- with `D = nrd − b4`, `M = N − a`: credited `max 0 (min D M − activeDays)`, and `L = max 1 D`
    exact ⟨by omega, by omega, fun _ => ⟨hc.2, hco⟩⟩
  · have hm : mitDays p s N = 0 := by unfold mitDays; simp only [hr, hc]; simp
    rw [hm]
    exact ⟨by simpa using hA.2 (fun x => hc ⟨x.2, x.1⟩), Int.le_refl 0, fun x => absurd rfl x⟩

/-- calendar-day form, valid for *every* repairable emission (persistent or intermittent): days
active + days mitigated = days the same leak is active without LDAR; mitigation is never negative
and non-zero only after a program repair. -/
theorem C02_calendar_days (p : Params) (ev : Nat → List TagEv) (N : Nat) (hr : p.repairable = true) :
    (run p ev N).activeDays + mitDays p (run p ev N) (summaryEndArg N) = (baseline p N).activeDays
    ∧ 0 ≤ mitDays p (run p ev N) (summaryEndArg N)
    ∧ (mitDays p (run p ev N) (summaryEndArg N) ≠ 0 →
        (run p ev N).status = .repaired ∧ ∃ c, (run p ev N).by_ = .company c) :=
  inv_mitDays p hr N _ (run_inv p hr ev N)

/-- C02 for persistent repairable emissions: proved for every start, duration, delay, schedule of
tag events and horizon. -/
theorem C02_partial (p : Params) (ev : Nat → List TagEv) (N : Nat)
    (hr : p.repairable = true) (hp : p.intermittent = false) :
    emitDays p (run p ev N) + mitDays p (run p ev N) (summaryEndArg N) = emitDays p (baseline p N)
    ∧ 0 ≤ mitDays p (run p ev N) (summaryEndArg N)
    ∧ (mitDays p (run p ev N) (summaryEndArg N) ≠ 0 →
        (run p ev N).status = .repaired ∧ ∃ c, (run p ev N).by_ = .company c) := by
  have h := C02_calendar_days p ev N hr
  unfold emitDays
  simp only [hp]
  exact h

/-- The full statement is false of the code as it stands for *intermittent* repairable sources
(known finding F4): `calc_mitigated` counts calendar days of the remaining natural life, the emitted
volume counts emitting days only.  Witness: on/off 1/1, natural duration 10, tagged on day 2,
no delay, 12 simulated days: emitted 1 + mitigated 7 ≠ 5 (baseline). -/
theorem C02_counterexample : ¬ C02_statement := by
  intro h
  have := (h { start := 0, nrd := 10, repairDelay := 0, repairable := true, intermittent := true,
               activeDur := 1, inactiveDur := 1 }
             (fun d => if d = 2 then [{ company := 7, trd := 0 }] else []) 12 rfl).1
  revert this
  decide +kernel

/-- A second, independent way in which intermittent sources break the identity (finding F4c): the
update that ends an emission is not seen by the intermittency toggle, so the day on which a leak is
repaired is never counted as an emitting day.  Witness without any non-emitting day inside the
horizon (3 on / 1 off, one simulated day, tagged on day 0, no delay): emitted 0 + mitigated 0, but the
same leak emits 1 day without LDAR. -/
theorem C02_counterexample_final_day :
    let p : Params := { start := 0, nrd := 10, repairDelay := 0, repairable := true,
                        intermittent := true, activeDur := 3, inactiveDur := 1 }
    let ev : Nat → List TagEv := fun d => if d = 0 then [{ company := 1, trd := 0 }] else []
    emitDays p (run p ev 1) + mitDays p (run p ev 1) (summaryEndArg 1) = 0 ∧
    emitDays p (baseline p 1) = 1 ∧ (run p ev 1).status = .repaired := by
  decide +kernel

theorem sum_map_add_eq {α : Type} (ls : List α) (f g h : α → Int)
    (hx : ∀ x ∈ ls, f x + g x = h x) : (ls.map f).sum + (ls.map g).sum = (ls.map h).sum := by
  induction ls with
  | nil => rfl
  | cons x xs ih =>
    have := hx x (by simp)
    have := ih fun y hy => hx y (by simp [hy])
    simp only [List.map_cons, List.sum_cons]
    omega

/-- program totals: summing the leak-wise identity over any list of persistent repairable leaks,
each with its own tag schedule (volumes are these day counts times rate × 86.4) -/
theorem C02_totals (ls : List (Params × (Nat → List TagEv))) (N : Nat)
    (h : ∀ x ∈ ls, x.1.repairable = true ∧ x.1.intermittent = false) :
    (ls.map (fun x => emitDays x.1 (run x.1 x.2 N))).sum
      + (ls.map (fun x => mitDays x.1 (run x.1 x.2 N) (summaryEndArg N))).sum
      = (ls.map (fun x => emitDays x.1 (baseline x.1 N))).sum :=
  sum_map_add_eq ls _ _ _ fun x hx => (C02_partial x.1 x.2 N (h x hx).1 (h x hx).2).1

/-- program totals as the summary files report them: *rate-weighted* volumes.  Each leak carries its
own rate `x.2.2` (volume = days × rate × 86.4, the common factor 86.4 dropped): over any list of
persistent repairable leaks, each with its own tag schedule,
Σ rate·emitted + Σ rate·mitigated = Σ rate·(no-LDAR emitted).  (Non-repairable leaks are added in
`C02_totals_all`, Props/C03.lean, via `C03_nonrepairable`.) -/
theorem C02_totals_weighted (ls : List (Params × (Nat → List TagEv) × Int)) (N : Nat)
    (h : ∀ x ∈ ls, x.1.repairable = true ∧ x.1.intermittent = false) :
    (ls.map (fun x => x.2.2 * emitDays x.1 (run x.1 x.2.1 N))).sum
      + (ls.map (fun x => x.2.2 * mitDays x.1 (run x.1 x.2.1 N) (summaryEndArg N))).sum
      = (ls.map (fun x => x.2.2 * emitDays x.1 (baseline x.1 N))).sum :=
  sum_map_add_eq ls _ _ _ fun x hx => by
    rw [← Int.mul_add, (C02_partial x.1 x.2.1 N (h x hx).1 (h x hx).2).1]

/-- the same with detection-only events of screening methods mixed in (the day loop the simulator
really runs): they change nothing -/
theorem C02_calendar_days_E (p : Params) (ev : Nat → List Ev) (N : Nat) (hr : p.repairable = true) :
    (runE p ev N).activeDays + mitDays p (runE p ev N) (summaryEndArg N) = (baseline p N).activeDays
    ∧ 0 ≤ mitDays p (runE p ev N) (summaryEndArg N)
    ∧ (mitDays p (runE p ev N) (summaryEndArg N) ≠ 0 →
        (runE p ev N).status = .repaired ∧ ∃ c, (runE p ev N).by_ = .company c) := by
  obtain ⟨i, b, e⟩ := runE_eq p ev N
  rw [e]
  exact C02_calendar_days p _ N hr

theorem C02_partial_E (p : Params) (ev : Nat → List Ev) (N : Nat)
    (hr : p.repairable = true) (hp : p.intermittent = false) :
    emitDays p (runE p ev N) + mitDays p (runE p ev N) (summaryEndArg N) = emitDays p (baseline p N)
    ∧ 0 ≤ mitDays p (runE p ev N) (summaryEndArg N)
    ∧ (mitDays p (runE p ev N) (summaryEndArg N) ≠ 0 →
        (runE p ev N).status = .repaired ∧ ∃ c, (runE p ev N).by_ = .company c) := by
  obtain ⟨i, b, e⟩ := runE_eq p ev N
  rw [e]
  exact C02_partial p _ N hr hp

/-- non-vacuity: a pre-period leak (start −40, nrd 60) tagged on day 10 with δ = 3 over 40 days,
and a leak whose natural end lies beyond the last simulated day -/
example :
    let p : Params := { start := -40, nrd := 60, repairDelay := 2, repairable := true,
                        intermittent := false, activeDur := 1, inactiveDur := 0 }
    let ev : Nat → List TagEv := fun d => if d = 10 then [{ company := 1, trd := 1 }] else []
    (run p ev 40).status = .repaired ∧ (run p ev 40).activeDays = 13 ∧
    mitDays p (run p ev 40) (summaryEndArg 40) = 7 ∧ (baseline p 40).activeDays = 20 := by
  decide +kernel

example :
    let p : Params := { start := 5, nrd := 10, repairDelay := 0, repairable := true,
                        intermittent := false, activeDur := 1, inactiveDur := 0 }
    let ev : Nat → List TagEv := fun d => if d = 8 then [{ company := 1, trd := 0 }] else []
    (run p ev 12).activeDays = 4 ∧ mitDays p (run p ev 12) (summaryEndArg 12) = 3 ∧
    (baseline p 12).activeDays = 7 := by
  decide +kernel

/-- non-vacuity of the weighted totals: two leaks with rates 3 and 5, one repaired by the program -/
example :
    let p1 : Params := { start := 0, nrd := 10, repairDelay := 0, repairable := true,
                         intermittent := false, activeDur := 1, inactiveDur := 0 }
    let p2 : Params := { start := -2, nrd := 6, repairDelay := 1, repairable := true,
                         intermittent := false, activeDur := 1, inactiveDur := 0 }
    let ev : Nat → List TagEv := fun d => if d = 2 then [{ company := 1, trd := 0 }] else []
    3 * emitDays p1 (run p1 ev 12) + 5 * emitDays p2 (run p2 noEvents 12)
      + (3 * mitDays p1 (run p1 ev 12) (summaryEndArg 12) + 5 * mitDays p2 (run p2 noEvents 12) (summaryEndArg 12))
      = 3 * emitDays p1 (baseline p1 12) + 5 * emitDays p2 (baseline p2 12)
    ∧ mitDays p1 (run p1 ev 12) (summaryEndArg 12) = 7 := by
  decide +kernel

end LdarModel.Emission
