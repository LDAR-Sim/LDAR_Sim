/-
Layer 3 for the two estimates a method's schedule is built from (DESIGN.md §10.21).
`Generated/EstimateSrc.lean` is the translation (over ℚ) of `Method._estimate_method_crews_required` and
`Method.estimate_average_daily_surveys`, rewritten from /repo's source on every run.  The documented
formulas are stated outright and the translation is proved equal to them.
-/
import LdarModel.Generated.EstimateSrc
import LdarModel.Model.Crew

namespace LdarModel.EstimateTie
open LdarModel.EstimateSrc

/-- LDAR-Sim's own estimate of the crews a routine mobile method needs:
`ceil(sites / (sites per crew-day × days between two surveys of a site))`, the crew-day shortened by one
(average) trip home -/
def portfolioEstimate (nSites workHours avgTravel avgSurvey avgRequired : Rat) : Int :=
  Rat.ceil (nSites / (((workHours * 60 - avgTravel) / avgSurvey) * (365 / avgRequired)))

/-- **crews of a method**: a positive configured `crew_count` is what the method gets, whatever the
estimate says; with `crew_count` 0 a follow-up method gets 1 crew and a routine method the estimate -/
theorem crews_required_spec (o : Obj) (crews : Rat) :
    (crews_required o crews).2 =
      (if crews > 0 then crews
       else if o.is_follow_up = true then 1
       else ((portfolioEstimate o.n_sites o.max_work_hours o.env_avg_travel o.env_avg_survey_time o.env_avg_required : Int) : Rat)) := by
  by_cases hf : o.is_follow_up = true <;> by_cases hc : crews > 0 <;> simp [portfolioEstimate, hf, hc]

/-- the same, in the shape of the crew model: for whole-number `crew_count` it is `Crew.methodCrews`
of the configured count and the estimate (a non-stationary method) -/
theorem crews_required_is_methodCrews (o : Obj) (configured : Nat) (h : 0 ≤ portfolioEstimate o.n_sites o.max_work_hours o.env_avg_travel o.env_avg_survey_time o.env_avg_required) :
    (crews_required o (configured : Rat)).2 =
      ((Crew.methodCrews false o.is_follow_up configured
          (portfolioEstimate o.n_sites o.max_work_hours o.env_avg_travel o.env_avg_survey_time o.env_avg_required).toNat : Nat) : Rat) := by
  rw [crews_required_spec]
  rcases Nat.eq_zero_or_pos configured with rfl | hpos
  · cases o.is_follow_up <;> simp [Crew.methodCrews]
    exact_mod_cast (Int.toNat_of_nonneg h).symm
  · have : (0 : Rat) < configured := by exact_mod_cast hpos
    simp [Crew.methodCrews, this, hpos]

/-- **daily capacity of a crew**: a stationary method has none (−1); otherwise the number of average
surveys that fit into the workday, rounded UP (a site that takes longer than a day still gets one slot) -/
theorem daily_surveys_spec (o : Obj) :
    (daily_surveys o).2 =
      (if o.deployment_type = Deploy.stationary then -1
       else ((Rat.ceil (o.max_work_hours * 60 / o.avg_s_time) : Int) : Rat)) := by
  by_cases hs : o.deployment_type = Deploy.stationary <;> simp [hs]

/-- a positive workday and survey time always give at least one slot (the schedule can plan the site) -/
theorem daily_surveys_pos (o : Obj) (hs : o.deployment_type ≠ Deploy.stationary)
    (hq : 0 < o.max_work_hours * 60 / o.avg_s_time) : 1 ≤ (daily_surveys o).2 := by
  rw [daily_surveys_spec, if_neg hs]
  have h0 : (0 : Int) < (o.max_work_hours * 60 / o.avg_s_time).ceil := Rat.lt_ceil_iff.2 (by exact_mod_cast hq)
  exact_mod_cast h0

/-- non-vacuity: a 510-minute survey in an 8 h day (one slot: the documented rounding up; rounding down
would give none) -/
example : Rat.ceil ((8 : Rat) * 60 / 510) = 1 ∧ Rat.floor ((8 : Rat) * 60 / 510) = 0 := by
  constructor <;> decide +kernel

theorem all_translated : EstimateSrc.untranslated = [] := by decide

end LdarModel.EstimateTie
