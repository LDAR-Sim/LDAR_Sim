import LdarModel.Props.C02
/-
C03 — LDAR never worsens a leak; durations are bounded; non-repairables untouched.
Model: `Model/Emission.lean`.  All statements quantify over every parameter set, every schedule of
tag / record events and every horizon.
-/
namespace LdarModel.Emission

/-- the property at full strength.  `1 ≤ nrd` and `-nrd ≤ start` is what the generator produces
(`Source.generate_emissions`: pre-period starts range over `start − duration … start − 1`). -/
def C03_statement : Prop :=
  ∀ (p : Params) (ev : Nat → List TagEv) (N : Nat), 1 ≤ p.nrd → -p.nrd ≤ p.start →
    (run p ev N).activeDays ≤ (baseline p N).activeDays
    ∧ (run p ev N).activeDays + b4 p ≤ p.nrd
    ∧ (p.repairable = false →
        (run p ev N).status = (baseline p N).status ∧
        (run p ev N).activeDays = (baseline p N).activeDays ∧
        emitDays p (run p ev N) = emitDays p (baseline p N) ∧
        (run p ev N).endDate = (baseline p N).endDate ∧
        (run p ev N).status ≠ .repaired ∧ mitDays p (run p ev N) (summaryEndArg N) = 0)

/-- a repairable leak is never active longer than in the no-LDAR run of the same scenario -/
theorem C03_le_baseline (p : Params) (hr : p.repairable = true) (ev : Nat → List TagEv) (N : Nat) :
    (run p ev N).activeDays ≤ (baseline p N).activeDays :=
  (run_activeDays p hr ev N).1

/-- honest bound of the code: days active inside the period never exceed `max 1 (nrd − b4)` -/
theorem C03_bounded_rep (p : Params) (hr : p.repairable = true) (ev : Nat → List TagEv) (N : Nat) :
    (run p ev N).activeDays ≤ L p := by
  have := (inv_activeDays p N _ (run_inv p hr ev N)).1
  have := L_pos p
  omega

/-! ### non-repairable emissions: the observable life-cycle does not depend on the events -/

/-- what a non-repairable emission shows of its life-cycle (everything `update` reads or the record
reports, except who recorded it) -/
def obs (s : State) : Status × Int × Option Int × Bool × Int × Int × Int :=
  (s.status, s.activeDays, s.endDate, s.emitting, s.daysEmitting, s.onCount, s.offCount)

private theorem tags_obs (p : Params) (d : Int) (evs : List TagEv) (s : State) :
    obs (evs.foldl (fun s e => tag p d e s) s) = obs s := by
  have := tags_frame p d evs s
  unfold obs; grind

private theorem activate_obs (p : Params) (d : Int) (s s' : State) (h : obs s = obs s') :
    obs (activate p d s) = obs (activate p d s') := by
  unfold obs at *; unfold activate; grind

private theorem toggle_obs (p : Params) (s s' : State) (h : obs s = obs s') :
    obs (toggle p s) = obs (toggle p s') := by
  unfold obs at h
  simp only [Prod.mk.injEq] at h
  obtain ⟨h1, h2, h3, h4, h5, h6, h7⟩ := h
  unfold toggle
  simp only [apply_ite obs]
  simp only [obs, h1, h2, h3, h4, h5, h6, h7]

private theorem update_obs (p : Params) (hr : p.repairable = false) (s s' : State)
    (h : obs s = obs s') : obs (update p s) = obs (update p s') := by
  have h' := h
  unfold obs at h'
  simp only [Prod.mk.injEq] at h'
  obtain ⟨h1, h2, h3, h4, h5, h6, h7⟩ := h'
  have hc : obs (counted p s) = obs (counted p s') := by
    simp only [obs, h1, h2, h3, h4, h5, h6, h7]
  -- without the repair test `update` reads nothing but the observable fields
  rw [update_eq, update_eq p s']
  simp only [hr, apply_ite obs, toggle_obs p _ _ hc]
  simp only [obs, endedAt, h1, h2, h3, h4, h5, h6, h7, Bool.false_eq_true, false_and, if_false]

theorem run_obs (p : Params) (hr : p.repairable = false) (ev ev' : Nat → List TagEv) (N : Nat) :
    obs (run p ev N) = obs (run p ev' N) := by
  induction N with
  | zero => rfl
  | succ n ih =>
    rw [run_step, run_step]
    unfold day
    apply update_obs p hr
    rw [tags_obs, tags_obs]
    exact activate_obs p n _ _ ih

/-- invariant of a non-repairable emission after `n` days -/
def InvN (p : Params) (n : Nat) (s : State) : Prop :=
  (s.status = .inactive → (n : Int) ≤ a p ∧ s.activeDays = 0) ∧
  (s.status = .active → a p < n ∧ s.activeDays = n - a p ∧ s.activeDays < L p) ∧
  (s.status = .expired → s.activeDays = L p ∧ L p ≤ n - a p) ∧
  s.status ≠ .repaired

private theorem day_invN (p : Params) (hr : p.repairable = false) (n : Nat) (evs : List TagEv)
    (s : State) (h : InvN p n s) : InvN p (n + 1) (day p n evs s) := by
  have hm : (activate p n s).activeDays = s.activeDays ∧
      (activate p n s).status = if s.status = .inactive ∧ p.start ≤ n then .active else s.status := by
    unfold activate; split <;> simp_all
  obtain ⟨ht1, ht2, -⟩ := tags_frame p n evs (activate p n s)
  unfold day
  rw [update_eq]
  generalize evs.foldl (fun s e => tag p n e s) (activate p n s) = m at *
  have tf := toggle_frame p (counted p m)
  have hL := L_eq p
  have hb := start_add_b4 p
  have ha : a p = if p.start > 0 then p.start else 0 := rfl
  -- as for a repairable emission (`update_inv`), without the repair branch: active for `n − a`
  -- days, the emission expires on reaching `L` and stays below `L` otherwise
  unfold InvN at *
  simp only [hr]
  grind

theorem run_invN (p : Params) (hr : p.repairable = false) (ev : Nat → List TagEv) (n : Nat) :
    InvN p n (run p ev n) := by
  induction n with
  | zero => unfold InvN run init a; simp; split <;> omega
  | succ n ih => rw [run_step]; exact day_invN p hr n (ev n) _ ih

theorem nonrep_never_repaired (p : Params) (hr : p.repairable = false) (ev : Nat → List TagEv)
    (N : Nat) : (run p ev N).status ≠ .repaired :=
  (run_invN p hr ev N).2.2.2

/-- C03, non-repairable part: whatever any program does (any schedule of record events), the
emission has the same status, active days, emitted days, end date as without LDAR; it is never
repaired and never credited with mitigation. -/
theorem C03_nonrepairable (p : Params) (hr : p.repairable = false) (ev : Nat → List TagEv) (N : Nat) :
    (run p ev N).status = (baseline p N).status ∧
    (run p ev N).activeDays = (baseline p N).activeDays ∧
    emitDays p (run p ev N) = emitDays p (baseline p N) ∧
    (run p ev N).endDate = (baseline p N).endDate ∧
    (run p ev N).status ≠ .repaired ∧ mitDays p (run p ev N) (summaryEndArg N) = 0 := by
  have h := run_obs p hr ev noEvents N
  unfold obs at h
  simp only [Prod.mk.injEq] at h
  obtain ⟨h1, h2, h3, h4, h5, h6, h7⟩ := h
  refine ⟨h1, h2, ?_, h3, nonrep_never_repaired p hr ev N, ?_⟩
  · unfold emitDays baseline; split <;> assumption
  · unfold mitDays; simp [hr]

theorem C03_bounded_nonrep (p : Params) (hr : p.repairable = false) (ev : Nat → List TagEv) (N : Nat) :
    (run p ev N).activeDays ≤ L p := by
  have hi := run_invN p hr ev N
  unfold InvN at hi
  generalize run p ev N = s at *
  have hL := L_pos p
  cases hs : s.status <;> grind

/-- every emission: days active inside the period never exceed `max 1 (nrd − b4)`;
with the pre-period days, `activeDays + b4 ≤ max nrd (b4 + 1)` -/
theorem C03_bounded (p : Params) (ev : Nat → List TagEv) (N : Nat) :
    (run p ev N).activeDays + b4 p ≤ (if p.nrd ≥ b4 p + 1 then p.nrd else b4 p + 1) := by
  have h : (run p ev N).activeDays ≤ L p := by
    cases hr : p.repairable
    · exact C03_bounded_nonrep p hr ev N
    · exact C03_bounded_rep p hr ev N
  unfold L at h
  split at h <;> split <;> omega

/-- the clean bound of the property holds whenever the emission is younger than its duration at
the start of the period -/
theorem C03_bounded_partial (p : Params) (ev : Nat → List TagEv) (N : Nat) (h : b4 p < p.nrd) :
    (run p ev N).activeDays + b4 p ≤ p.nrd := by
  have := C03_bounded p ev N
  split at this <;> omega

/-- no emission (repairable or not, any parameters) is ever active longer than in the no-LDAR run of
the same scenario -/
theorem C03_le_baseline_all (p : Params) (ev : Nat → List TagEv) (N : Nat) :
    (run p ev N).activeDays ≤ (baseline p N).activeDays := by
  cases hr : p.repairable
  · exact Int.le_of_eq (C03_nonrepairable p hr ev N).2.1
  · exact C03_le_baseline p hr ev N

theorem C03_le_baseline_all_E (p : Params) (ev : Nat → List Ev) (N : Nat) :
    (runE p ev N).activeDays ≤ (baseline p N).activeDays := by
  obtain ⟨i, b, e⟩ := runE_eq p ev N
  rw [e]
  exact C03_le_baseline_all p _ N

/-- C03 with the one excluded start made explicit: everything in the statement holds for every
emission except that the duration bound needs `start ≠ −nrd` (see the counterexample) -/
theorem C03_partial (p : Params) (ev : Nat → List TagEv) (N : Nat) (h1 : 1 ≤ p.nrd)
    (h2 : -p.nrd < p.start) :
    (run p ev N).activeDays ≤ (baseline p N).activeDays
    ∧ (run p ev N).activeDays + b4 p ≤ p.nrd
    ∧ (p.repairable = false →
        (run p ev N).status = (baseline p N).status ∧
        (run p ev N).activeDays = (baseline p N).activeDays ∧
        emitDays p (run p ev N) = emitDays p (baseline p N) ∧
        (run p ev N).endDate = (baseline p N).endDate ∧
        (run p ev N).status ≠ .repaired ∧ mitDays p (run p ev N) (summaryEndArg N) = 0) := by
  refine ⟨C03_le_baseline_all p ev N, ?_, fun hr => C03_nonrepairable p hr ev N⟩
  apply C03_bounded_partial
  unfold b4; split <;> omega

theorem C03_partial_E (p : Params) (ev : Nat → List Ev) (N : Nat) (h1 : 1 ≤ p.nrd)
    (h2 : -p.nrd < p.start) :
    (runE p ev N).activeDays ≤ (baseline p N).activeDays
    ∧ (runE p ev N).activeDays + b4 p ≤ p.nrd
    ∧ (p.repairable = false →
        (runE p ev N).status = (baseline p N).status ∧
        (runE p ev N).activeDays = (baseline p N).activeDays ∧
        emitDays p (runE p ev N) = emitDays p (baseline p N) ∧
        (runE p ev N).endDate = (baseline p N).endDate ∧
        (runE p ev N).status ≠ .repaired ∧ mitDays p (runE p ev N) (summaryEndArg N) = 0) := by
  obtain ⟨i, b, e⟩ := runE_eq p ev N
  rw [e]
  exact C03_partial p _ N h1 h2

/-- C02's "program totals" clause over *all* leaks of a program (rate-weighted, as the summary files
report them): repairable persistent leaks contribute by `C02_partial`, non-repairable leaks (persistent
or intermittent) by `C03_nonrepairable` (same emitted days as without LDAR, mitigation 0).  Only
intermittent *repairable* leaks are excluded (known finding F4). -/
theorem C02_totals_all (ls : List (Params × (Nat → List TagEv) × Int)) (N : Nat)
    (h : ∀ x ∈ ls, x.1.repairable = false ∨ x.1.intermittent = false) :
    (ls.map (fun x => x.2.2 * emitDays x.1 (run x.1 x.2.1 N))).sum
      + (ls.map (fun x => x.2.2 * mitDays x.1 (run x.1 x.2.1 N) (summaryEndArg N))).sum
      = (ls.map (fun x => x.2.2 * emitDays x.1 (baseline x.1 N))).sum := by
  refine sum_map_add_eq ls _ _ _ fun x hx => ?_
  rw [← Int.mul_add]
  congr 1
  cases hr : x.1.repairable
  · have := C03_nonrepairable x.1 hr x.2.1 N
    rw [this.2.2.1, this.2.2.2.2.2, Int.add_zero]
  · exact (C02_partial x.1 x.2.1 N hr ((h x hx).resolve_left (by simp [hr]))).1

/-! ### "never worsens" in emitted days (intermittent sources: the prefix lemma) -/

/-- what the intermittency automaton carries -/
def iproj (s : State) : Int × Bool × Int × Int × Int :=
  (s.activeDays, s.emitting, s.daysEmitting, s.onCount, s.offCount)

/-- prefix relation between a program run `r` and the no-LDAR run `b` of the same repairable leak:
as long as the program run is alive the two agree on the whole intermittency automaton; once the
program run has ended its emitting days are frozen while the baseline's can only grow -/
def Pre (r b : State) : Prop :=
  (r.status = .inactive → b.status = .inactive ∧ iproj r = iproj b) ∧
  (r.status = .active → b.status = .active ∧ iproj r = iproj b) ∧
  (r.status = .repaired → r.daysEmitting ≤ b.daysEmitting) ∧
  r.status ≠ .expired ∧
  (b.status ≠ .repaired → b.tagged = false)

private theorem toggle_mono (p : Params) (s : State) : s.daysEmitting ≤ (toggle p s).daysEmitting := by
  unfold toggle; grind

private theorem toggle_iproj (p : Params) (s s' : State) (h : iproj s = iproj s') :
    iproj (toggle p s) = iproj (toggle p s') := by
  unfold iproj at h
  simp only [Prod.mk.injEq] at h
  obtain ⟨h1, h2, h3, h4, h5⟩ := h
  unfold toggle
  simp only [apply_ite iproj]
  simp only [iproj, h1, h2, h3, h4, h5]

private theorem update_pre (p : Params) (hr : p.repairable = true) (r b : State) (h : Pre r b) :
    Pre (update p r) (update p b) := by
  have t1 := toggle_mono p (counted p b)
  have t2 := toggle_frame p (counted p b)
  have t3 := toggle_frame p (counted p r)
  have t4 := toggle_iproj p (counted p r) (counted p b)
  rw [update_eq, update_eq p b]
  unfold Pre iproj at *
  simp only [Prod.mk.injEq] at *
  -- While both are active they count the same days, so the natural end comes to both on the same
  -- day; before it the baseline, untagged, toggles on, while the program run either toggles in
  -- step or is repaired and stops counting.
  grind

theorem day_pre (p : Params) (hr : p.repairable = true) (d : Int) (evs : List TagEv) (r b : State)
    (h : Pre r b) : Pre (day p d evs r) (day p d [] b) := by
  have h1 : Pre (activate p d r) (activate p d b) := by
    unfold Pre iproj activate at *; simp only [Prod.mk.injEq] at *; grind
  have h2 := tags_frame p d evs (activate p d r)
  unfold day
  rw [List.foldl_nil]
  refine update_pre p hr _ _ ?_
  unfold Pre iproj at *
  grind

theorem run_pre (p : Params) (hr : p.repairable = true) (ev : Nat → List TagEv) (n : Nat) :
    Pre (run p ev n) (baseline p n) := by
  induction n with
  | zero => unfold Pre baseline run init iproj; simp
  | succ n ih => rw [run_step, baseline_step]; exact day_pre p hr n (ev n) _ _ ih

/-- "never worsens" in emitted days (what the records report as emitted volume), every emission -/
theorem C03_emit_le_baseline (p : Params) (ev : Nat → List TagEv) (N : Nat) :
    emitDays p (run p ev N) ≤ emitDays p (baseline p N) := by
  cases hr : p.repairable
  · exact Int.le_of_eq (C03_nonrepairable p hr ev N).2.2.1
  · unfold emitDays
    cases hi : p.intermittent
    · simp only [Bool.false_eq_true, if_false]; exact C03_le_baseline p hr ev N
    · simp only [if_true]
      have h := run_pre p hr ev N
      unfold Pre iproj at h
      obtain ⟨h1, h2, h3, h4, _⟩ := h
      cases hs : (run p ev N).status
      · have := (h1 hs).2; simp only [Prod.mk.injEq] at this; omega
      · have := (h2 hs).2; simp only [Prod.mk.injEq] at this; omega
      · exact h3 hs
      · exact absurd hs h4

theorem C03_emit_le_baseline_E (p : Params) (ev : Nat → List Ev) (N : Nat) :
    emitDays p (runE p ev N) ≤ emitDays p (baseline p N) := by
  obtain ⟨i, b, e⟩ := runE_eq p ev N
  rw [e]
  exact C03_emit_le_baseline p _ N

/-- non-vacuity of the prefix lemma: an intermittent (2 on / 1 off) leak repaired by the program on
day 3 has emitted 2 days, the same leak emits 6 days without LDAR -/
example :
    let p : Params := { start := 0, nrd := 10, repairDelay := 1, repairable := true,
                        intermittent := true, activeDur := 2, inactiveDur := 1 }
    let ev : Nat → List TagEv := fun d => if d = 2 then [{ company := 1, trd := 0 }] else []
    emitDays p (run p ev 12) = 2 ∧ emitDays p (baseline p 12) = 6 ∧ (run p ev 12).status = .repaired := by
  decide +kernel

/-- Known finding F3: an emission generated exactly `duration` days before the period (the earliest
pre-period start the generator draws) is active on the first simulated day, one day beyond its
configured duration. -/
theorem C03_counterexample : ¬ C03_statement := by
  intro h
  have := (h { start := -5, nrd := 5, repairDelay := 0, repairable := true, intermittent := false,
               activeDur := 1, inactiveDur := 0 } noEvents 3 (by decide) (by decide)).2.1
  revert this
  decide +kernel

/-- non-vacuity: a leak tagged 2 days before its natural end with a 5-day delay ends naturally -/
example :
    let p : Params := { start := 0, nrd := 10, repairDelay := 5, repairable := true,
                        intermittent := false, activeDur := 1, inactiveDur := 0 }
    let ev : Nat → List TagEv := fun d => if d = 8 then [{ company := 1, trd := 0 }] else []
    (run p ev 20).activeDays = 10 ∧ (run p ev 20).by_ = .natural ∧ (baseline p 20).activeDays = 10 := by
  decide +kernel

end LdarModel.Emission
