/-
Layer 3 tie for the per-emission record (`get_summary_dict`, the rows of `*_emissions_summary.csv`):
`Generated/EmissionSrc.lean` holds one function per record column and emission class, translated from the
current source.  Each column is the stated projection of the object's state — so what C01 / C02 / C03 /
C04 / C11 read in the output files is the model state the theorems are about.  In particular the identity
columns C01 compares between programs (true rate, start date, repairability, theoretical end date) do not
depend on any life-cycle field.
-/
import LdarModel.Props.EmissionTie

namespace LdarModel.EmissionRecord
open LdarModel.Emission LdarModel.EmissionSrc LdarModel.EmissionTie

theorem RE_record (o : Obj) (e : Int) (h : WFR o) :
    RE.col_STATUS o e = (absR o).status ∧ RE.col_DAYS_ACT o e = (absR o).activeDays
    ∧ RE.col_DAYS_EMITTING o e = emitDays (parR false o) (absR o)
    ∧ RE.col_T_VOL_EMIT o e = emitDays (parR false o) (absR o) * o.rate * o.env_kg_per_day
    ∧ RE.col_MITIGATED o e = mitDays (parR false o) (absR o) e * o.rate * o.env_kg_per_day
    ∧ RE.col_T_RATE o e = o.rate ∧ RE.col_DATE_BEG o e = o.start_date
    ∧ RE.col_DATE_REP_EXP o e = (absR o).endDate ∧ RE.col_THEORY_DATE o e = o.start_date + o.nrd
    ∧ RE.col_INIT_DETECT_BY o e = (absR o).initDetectBy ∧ RE.col_INIT_DETECT_DATE o e = (absR o).initDetect
    ∧ RE.col_TAGGED o e = (absR o).tagged ∧ RE.col_TAGGED_BY o e = (absR o).by_
    ∧ RE.col_REPAIRABLE o e = true :=
  ⟨rfl, rfl, (RE_emitted o).2.1, (RE_emitted o).1, (RE_mitigated o e h false).1, rfl, rfl, rfl,
    (RE_theory_date o).1, rfl, rfl, rfl, rfl, h.1⟩

theorem IRE_record (o : Obj) (e : Int) (h : WFR o) :
    IRE.col_STATUS o e = (absR o).status ∧ IRE.col_DAYS_ACT o e = (absR o).activeDays
    ∧ IRE.col_DAYS_EMITTING o e = emitDays (parR true o) (absR o)
    ∧ IRE.col_T_VOL_EMIT o e = emitDays (parR true o) (absR o) * o.rate * o.env_kg_per_day
    ∧ IRE.col_MITIGATED o e = mitDays (parR true o) (absR o) e * o.rate * o.env_kg_per_day
    ∧ IRE.col_T_RATE o e = o.rate ∧ IRE.col_DATE_BEG o e = o.start_date
    ∧ IRE.col_DATE_REP_EXP o e = (absR o).endDate ∧ IRE.col_THEORY_DATE o e = o.start_date + o.nrd
    ∧ IRE.col_INIT_DETECT_BY o e = (absR o).initDetectBy ∧ IRE.col_INIT_DETECT_DATE o e = (absR o).initDetect
    ∧ IRE.col_TAGGED o e = (absR o).tagged ∧ IRE.col_TAGGED_BY o e = (absR o).by_
    ∧ IRE.col_REPAIRABLE o e = true :=
  ⟨rfl, rfl, (IRE_emitted o).2.1, (IRE_emitted o).1, (IRE_mitigated o e h true).1, rfl, rfl, rfl,
    (RE_theory_date o).2.2.1, rfl, rfl, rfl, rfl, h.1⟩

/-- non-repairable classes (mitigated is the constant 0; the theoretical end date is the expiry date) -/
theorem NRE_record (o : Obj) (e : Int) :
    NRE.col_STATUS o e = (absN o).status ∧ NRE.col_DAYS_ACT o e = (absN o).activeDays
    ∧ NRE.col_DAYS_EMITTING o e = emitDays (parN false o) (absN o)
    ∧ NRE.col_T_VOL_EMIT o e = emitDays (parN false o) (absN o) * o.rate * o.env_kg_per_day
    ∧ NRE.col_MITIGATED o e = 0 ∧ NRE.col_T_RATE o e = o.rate ∧ NRE.col_DATE_BEG o e = o.start_date
    ∧ NRE.col_DATE_REP_EXP o e = (absN o).endDate ∧ NRE.col_THEORY_DATE o e = (absN o).endDate
    ∧ NRE.col_INIT_DETECT_BY o e = (absN o).initDetectBy ∧ NRE.col_INIT_DETECT_DATE o e = (absN o).initDetect
    ∧ NRE.col_RECORDED o e = (absN o).tagged ∧ NRE.col_RECORDED_BY o e = (absN o).by_
    ∧ NRE.col_REPAIRABLE o e = o.repairable :=
  ⟨rfl, rfl, (NRE_emitted o).2.1, (NRE_emitted o).1, rfl, rfl, rfl, rfl, rfl, rfl, rfl, rfl, rfl, rfl⟩

theorem INRE_record (o : Obj) (e : Int) :
    INRE.col_STATUS o e = (absN o).status ∧ INRE.col_DAYS_ACT o e = (absN o).activeDays
    ∧ INRE.col_DAYS_EMITTING o e = emitDays (parN true o) (absN o)
    ∧ INRE.col_T_VOL_EMIT o e = emitDays (parN true o) (absN o) * o.rate * o.env_kg_per_day
    ∧ INRE.col_MITIGATED o e = 0 ∧ INRE.col_T_RATE o e = o.rate ∧ INRE.col_DATE_BEG o e = o.start_date
    ∧ INRE.col_DATE_REP_EXP o e = (absN o).endDate ∧ INRE.col_THEORY_DATE o e = (absN o).endDate
    ∧ INRE.col_INIT_DETECT_BY o e = (absN o).initDetectBy ∧ INRE.col_INIT_DETECT_DATE o e = (absN o).initDetect
    ∧ INRE.col_RECORDED o e = (absN o).tagged ∧ INRE.col_RECORDED_BY o e = (absN o).by_
    ∧ INRE.col_REPAIRABLE o e = o.repairable :=
  ⟨rfl, rfl, (INRE_emitted o).2.1, (INRE_emitted o).1, rfl, rfl, rfl, rfl, rfl, rfl, rfl, rfl, rfl, rfl⟩

/-- **C01 on the record**: two programs that face the same emission (same rate, start date, natural repair
delay, repairability — whatever each did to it afterwards: any status, tags, days active, repair dates,
intermittency phase) write the same identity columns -/
theorem identity_columns_program_independent (o o' : Obj) (e e' : Int)
    (h : o'.rate = o.rate ∧ o'.start_date = o.start_date ∧ o'.nrd = o.nrd ∧ o'.repairable = o.repairable) :
    RE.col_T_RATE o' e' = RE.col_T_RATE o e ∧ RE.col_DATE_BEG o' e' = RE.col_DATE_BEG o e
    ∧ RE.col_THEORY_DATE o' e' = RE.col_THEORY_DATE o e ∧ RE.col_REPAIRABLE o' e' = RE.col_REPAIRABLE o e
    ∧ IRE.col_T_RATE o' e' = IRE.col_T_RATE o e ∧ IRE.col_DATE_BEG o' e' = IRE.col_DATE_BEG o e
    ∧ IRE.col_THEORY_DATE o' e' = IRE.col_THEORY_DATE o e ∧ IRE.col_REPAIRABLE o' e' = IRE.col_REPAIRABLE o e
    ∧ NRE.col_T_RATE o' e' = NRE.col_T_RATE o e ∧ NRE.col_DATE_BEG o' e' = NRE.col_DATE_BEG o e
    ∧ INRE.col_T_RATE o' e' = INRE.col_T_RATE o e ∧ INRE.col_DATE_BEG o' e' = INRE.col_DATE_BEG o e := by
  simp [h.1, h.2.1, h.2.2.1, h.2.2.2]

end LdarModel.EmissionRecord
