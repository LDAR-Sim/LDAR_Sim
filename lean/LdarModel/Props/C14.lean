import LdarModel.Lemmas.Summary
/-
C14 — summary files aggregate each program-simulation's own outputs, once each.

Model: `Model/Summary.lean`.  `runAllChecked` is the run as the real code behaves: the batch loop of
`_run_simulations_debug` over `batch_simulations n`, each batch written and then summarised by
`genAll` = `gen_summary_outputs`; `none` when some summarisation call raises (for the mapper's own
statistics: a selected estimate file without data rows).  `runAll` is the same loop without the check: by
`guard_exact` the two agree exactly on the accepted worlds, so the theorems stated for `runAll`
below are theorems about every run the real code completes.
The statements quantify over every content type and statistics (`Stats κ`), every world `W`
(what each program-simulation writes), every simulation count `n`, both retention settings and
every schedule `σ` of enumeration orders (one independent permutation per directory scan).
-/
namespace LdarModel.Summary

/-- no program-simulation wrote a file the real code raises on -/
def Accepted {κ : Type} (S : Stats κ) (W : Name → Nat → SimOut κ) (progs : List Name) (n : Nat) : Prop :=
  ∀ p ∈ progs, ∀ s, s < n → badSim S W p s = false

/-- the property at full strength: for *every* list of distinct program names and *every* world the
run completes and both summary tables are, up to row order, exactly one row per (program,
simulation), each computed from that pair's own files -/
def C14_statement : Prop :=
  ∀ (κ : Type) (S : Stats κ) (W : Name → Nat → SimOut κ) (progs : List Name) (keepAll : Bool)
    (σ : Sched κ) (n : Nat), progs.Nodup → σ.Valid →
    ∃ st, runAllChecked S W progs keepAll σ n = some st ∧
      (st.ts).Perm (canonTs S W progs (List.range n)) ∧ (st.emis).Perm (canonEmis S W progs (List.range n))

/-- closed form of both tables after the whole batch loop (no check for rejected files), for every
simulation count, both retention settings and every enumeration order of every scan; every program
folder ends with kept files only -/
theorem runAll_closed_form {κ : Type} (S : Stats κ) (W : Name → Nat → SimOut κ) (progs : List Name) (keepAll : Bool)
    (σ : Sched κ) (n : Nat) (hg : GoodProgs progs) (hσ : σ.Valid) :
    ((runAll S W progs keepAll σ n).ts).Perm (canonTs S W progs (List.range n)) ∧
    ((runAll S W progs keepAll σ n).emis).Perm (canonEmis S W progs (List.range n)) ∧
    (∀ pd ∈ (runAll S W progs keepAll σ n).dirs, ∀ e ∈ pd.2, isKept e.name = true) := by
  have h := runAll_inv S W progs hg keepAll σ hσ n
  exact ⟨h.ts, h.emis, h.kept⟩

/-- exactly which worlds the real code rejects: the run completes iff no program-simulation wrote a
file the statistics reject (`okTs` / `okEmis` / `okEst`; for the mapper's statistics: an estimate file
without data rows), and then it is `runAll` -/
theorem guard_exact {κ : Type} (S : Stats κ) (W : Name → Nat → SimOut κ) (progs : List Name) (keepAll : Bool)
    (σ : Sched κ) (n : Nat) (hg : GoodProgs progs) (hσ : σ.Valid) :
    (∀ st, runAllChecked S W progs keepAll σ n = some st ↔
      (Accepted S W progs n ∧ st = runAll S W progs keepAll σ n)) ∧
    (runAllChecked S W progs keepAll σ n = none ↔ ¬ Accepted S W progs n) := by
  have hacc : runRejects S W keepAll σ 0 (batchSimulations n) (initSt progs) = false ↔ Accepted S W progs n := by
    rw [runRejects_eq_false S W progs hg keepAll σ hσ _ 0 _ [] (init_inv S W progs), allSims_batchSimulations]
    simp only [Accepted, List.mem_range]
  unfold runAllChecked
  cases hrej : runRejects S W keepAll σ 0 (batchSimulations n) (initSt progs) <;> simp [← hacc, hrej, eq_comm]

/-- C14 for all program names that do not collide with the two reserved names (a leading `kept`,
the folder name `Logs`) and all worlds the real code accepts (for the mapper's statistics: every
estimate file has at least one data row): the run completes with the closed form of both tables -/
theorem C14_partial {κ : Type} (S : Stats κ) (W : Name → Nat → SimOut κ) (progs : List Name) (keepAll : Bool)
    (σ : Sched κ) (n : Nat) (hg : GoodProgs progs) (hσ : σ.Valid) (ha : Accepted S W progs n) :
    ∃ st, runAllChecked S W progs keepAll σ n = some st ∧
      (st.ts).Perm (canonTs S W progs (List.range n)) ∧ (st.emis).Perm (canonEmis S W progs (List.range n)) ∧
      (∀ pd ∈ st.dirs, ∀ e ∈ pd.2, isKept e.name = true) :=
  ⟨_, ((guard_exact S W progs keepAll σ n hg hσ).1 _).mpr ⟨ha, rfl⟩, runAll_closed_form S W progs keepAll σ n hg hσ⟩

/-- a run that is not accepted produces no summary at all -/
theorem C14_rejected {κ : Type} (S : Stats κ) (W : Name → Nat → SimOut κ) (progs : List Name) (keepAll : Bool)
    (σ : Sched κ) (n : Nat) (hg : GoodProgs progs) (hσ : σ.Valid) (ha : ¬ Accepted S W progs n) :
    runAllChecked S W progs keepAll σ n = none :=
  (guard_exact S W progs keepAll σ n hg hσ).2.mpr ha

theorem checked_some_eq {κ : Type} (S : Stats κ) (W : Name → Nat → SimOut κ) (progs : List Name) (keepAll : Bool)
    (σ : Sched κ) (n : Nat) (st : St κ) (h : runAllChecked S W progs keepAll σ n = some st) :
    st = runAll S W progs keepAll σ n := by
  unfold runAllChecked at h
  split at h
  · exact absurd h (by simp)
  · exact (Option.some.inj h).symm

def idSched (κ : Type) : Sched κ :=
  { dirs := fun _ l => l, ts := fun _ _ l => l, emis := fun _ _ l => l, est := fun _ _ l => l,
    rep := fun _ _ l => l }

theorem idSched_valid (κ : Type) : (idSched κ).Valid :=
  ⟨fun _ _ => List.Perm.refl _, fun _ _ _ => List.Perm.refl _, fun _ _ _ => List.Perm.refl _,
   fun _ _ _ => List.Perm.refl _, fun _ _ _ => List.Perm.refl _⟩

/-- a schedule that reverses some scans and not others -/
def mixedSched (κ : Type) : Sched κ :=
  { dirs := fun _ l => l.reverse, ts := fun _ _ l => l, emis := fun _ _ l => l.reverse,
    est := fun b _ l => if b % 2 = 0 then l.reverse else l, rep := fun _ _ l => l }

theorem mixedSched_valid (κ : Type) : (mixedSched κ).Valid := by
  refine ⟨fun _ l => List.reverse_perm l, fun _ _ _ => List.Perm.refl _, fun _ _ l => List.reverse_perm l,
    fun b _ l => ?_, fun _ _ _ => List.Perm.refl _⟩
  simp only [mixedSched]
  split
  · exact List.reverse_perm l
  · exact List.Perm.refl _

private def unitStats : Stats Unit :=
  { ts := fun _ => [], emis := fun _ => [], est := fun _ => [], rep := fun _ => [], nEmis := 0, nYears := 0,
    okTs := fun _ => true, okEmis := fun _ => true, okEst := fun _ => true }

private def unitWorld : Name → Nat → SimOut Unit := fun _ _ => { ts := (), emis := (), est := none, rep := none }

private theorem refuted_by_single (p : Name)
    (h : (runAll unitStats unitWorld [p] false (idSched Unit) 1).ts.length
      ≠ (canonTs unitStats unitWorld [p] (List.range 1)).length) : ¬ C14_statement := by
  intro hC
  obtain ⟨st, hst, h1, _⟩ := hC Unit unitStats unitWorld [p] false (idSched Unit) 1 (List.nodup_singleton _)
    (idSched_valid Unit)
  rw [checked_some_eq _ _ _ _ _ _ _ hst] at h1
  exact h h1.length_eq

/-- The full statement is false of the code as it stands (known finding C14-kept-prefix): a program
whose name starts with the kept marker is never summarised.  Witness: the single program `keptA`,
one simulation. -/
theorem C14_counterexample : ¬ C14_statement := refuted_by_single "keptA".toList (by decide +kernel)

/-- second witness (known finding C14-program-named-Logs): the single program `Logs`, whose folder
is the log folder and is skipped -/
theorem C14_counterexample_logs : ¬ C14_statement := refuted_by_single "Logs".toList (by decide +kernel)

private def zeroRowWorld : Name → Nat → SimOut Content := fun _ s =>
  { ts := .ts [(1, 1, 0, 5)], emis := .emis
      [{ mitigated := 0, trueVol := 3, estVol := 3, repairable := true, trueRate := 1,
         began := some ⟨2023, 1, 1⟩, ended := some ⟨2023, 1, 2⟩, theory := some ⟨2023, 1, 4⟩ }],
    est := if s = 1 then some (.est []) else none, rep := none }

/-- third witness (known finding C14-zero-row-file): with the mapper's own statistics, a simulation
whose estimate file has a header but no rows makes the summarisation raise: no summary at all -/
theorem C14_counterexample_zero_rows : ¬ C14_statement := by
  intro h
  obtain ⟨st, hst, _⟩ := h Content (concreteStats [2023]) zeroRowWorld ["P_A".toList] false (idSched Content) 2
    (by simp) (idSched_valid Content)
  -- simulation 1 of `P_A` is not accepted
  rw [C14_rejected _ _ _ _ _ _ (by unfold GoodProgs; decide) (idSched_valid Content) fun ha =>
    absurd (ha _ (List.mem_singleton_self _) 1 (by omega)) (by decide)] at hst
  cases hst

/-- every (program, simulation) pair appears exactly once in each summary table and nothing else
does — for every simulation count, both retention settings, every enumeration order -/
theorem once_each {κ : Type} (S : Stats κ) (W : Name → Nat → SimOut κ) (progs : List Name) (keepAll : Bool)
    (σ : Sched κ) (n : Nat) (hg : GoodProgs progs) (hσ : σ.Valid) (hp : progs.Nodup) :
    (∀ p ∈ progs, ∀ s, s < n →
      (keys (runAll S W progs keepAll σ n).ts).count (key p s) = 1 ∧
      (keys (runAll S W progs keepAll σ n).emis).count (key p s) = 1) ∧
    (∀ k, (k ∈ keys (runAll S W progs keepAll σ n).ts ∨ k ∈ keys (runAll S W progs keepAll σ n).emis) →
      ∃ p ∈ progs, ∃ s, s < n ∧ k = key p s) ∧
    (keys (runAll S W progs keepAll σ n).ts).Nodup ∧ (keys (runAll S W progs keepAll σ n).emis).Nodup := by
  obtain ⟨hts, hem, _⟩ := runAll_closed_form S W progs keepAll σ n hg hσ
  have nd := nodup_canonKeys progs (List.range n) hp List.nodup_range
  have kts : (keys (runAll S W progs keepAll σ n).ts).Perm (canonKeys progs (List.range n)) := by
    rw [← keys_canonTs S W]; exact List.Perm.map _ hts
  have kem : (keys (runAll S W progs keepAll σ n).emis).Perm (canonKeys progs (List.range n)) := by
    rw [← keys_canonEmis S W]; exact List.Perm.map _ hem
  refine ⟨?_, ?_, (List.Perm.nodup_iff kts).mpr nd, (List.Perm.nodup_iff kem).mpr nd⟩
  · intro p hpm s hs
    have hmem : key p s ∈ canonKeys progs (List.range n) :=
      (mem_canonKeys _ _ _).mpr ⟨s, List.mem_range.mpr hs, p, hpm, rfl⟩
    rw [kts.count_eq, kem.count_eq]
    exact ⟨List.count_eq_one_of_mem nd hmem, List.count_eq_one_of_mem nd hmem⟩
  · intro k hk
    have : k ∈ canonKeys progs (List.range n) := by
      rcases hk with hk | hk
      · exact kts.mem_iff.mp hk
      · exact kem.mem_iff.mp hk
    obtain ⟨s, hs, p, hpm, rfl⟩ := (mem_canonKeys _ _ _).mp this
    exact ⟨p, hpm, s, List.mem_range.mp hs, rfl⟩

/-- the row of (p, s) is the stated function of that pair's own files (and therefore of no other
file: two worlds that agree on what (p, s) writes give the same row) -/
theorem own_files_only {κ : Type} (S : Stats κ) (W W' : Name → Nat → SimOut κ) (progs : List Name)
    (keepAll : Bool) (σ σ' : Sched κ) (n : Nat) (hg : GoodProgs progs) (hσ : σ.Valid) (hσ' : σ'.Valid)
    (hp : progs.Nodup) (p : Name) (hpm : p ∈ progs) (s : Nat) (hs : s < n) :
    List.lookup (key p s) (runAll S W progs keepAll σ n).ts = some (S.ts (W p s).ts) ∧
    List.lookup (key p s) (runAll S W progs keepAll σ n).emis = some (S.emis (W p s).emis ++ estPart S (W p s)) ∧
    (W p s = W' p s →
      List.lookup (key p s) (runAll S W progs keepAll σ n).ts
        = List.lookup (key p s) (runAll S W' progs keepAll σ' n).ts ∧
      List.lookup (key p s) (runAll S W progs keepAll σ n).emis
        = List.lookup (key p s) (runAll S W' progs keepAll σ' n).emis) := by
  have key1 : ∀ (V : Name → Nat → SimOut κ) (τ : Sched κ), τ.Valid →
      List.lookup (key p s) (runAll S V progs keepAll τ n).ts = some (S.ts (V p s).ts) ∧
      List.lookup (key p s) (runAll S V progs keepAll τ n).emis = some (S.emis (V p s).emis ++ estPart S (V p s)) := by
    intro V τ hτ
    obtain ⟨hts, hem, _⟩ := runAll_closed_form S V progs keepAll τ n hg hτ
    have o := once_each S V progs keepAll τ n hg hτ hp
    rw [lookup_perm hts o.2.2.1, lookup_perm hem o.2.2.2,
      lookup_canonTs S V progs _ hp List.nodup_range p hpm s (List.mem_range.mpr hs),
      lookup_canonEmis S V progs _ hp List.nodup_range p hpm s (List.mem_range.mpr hs)]
    exact ⟨rfl, rfl⟩
  refine ⟨(key1 W σ hσ).1, (key1 W σ hσ).2, fun hW => ?_⟩
  rw [(key1 W σ hσ).1, (key1 W σ hσ).2, (key1 W' σ' hσ').1, (key1 W' σ' hσ').2, hW]
  exact ⟨rfl, rfl⟩

/-- the summary tables do not depend on the order in which the file system lists anything: two
runs under different valid schedules give the same tables as keyed maps (and as multisets) -/
theorem perm_invariant {κ : Type} (S : Stats κ) (W : Name → Nat → SimOut κ) (progs : List Name)
    (keepAll : Bool) (σ σ' : Sched κ) (n : Nat) (hg : GoodProgs progs) (hσ : σ.Valid) (hσ' : σ'.Valid)
    (hp : progs.Nodup) :
    ((runAll S W progs keepAll σ n).ts).Perm (runAll S W progs keepAll σ' n).ts ∧
    ((runAll S W progs keepAll σ n).emis).Perm (runAll S W progs keepAll σ' n).emis ∧
    ∀ k, List.lookup k (runAll S W progs keepAll σ n).ts = List.lookup k (runAll S W progs keepAll σ' n).ts ∧
         List.lookup k (runAll S W progs keepAll σ n).emis = List.lookup k (runAll S W progs keepAll σ' n).emis := by
  obtain ⟨a1, a2, _⟩ := runAll_closed_form S W progs keepAll σ n hg hσ
  obtain ⟨b1, b2, _⟩ := runAll_closed_form S W progs keepAll σ' n hg hσ'
  have o := once_each S W progs keepAll σ n hg hσ hp
  have p1 := a1.trans b1.symm
  have p2 := a2.trans b2.symm
  exact ⟨p1, p2, fun k => ⟨lookup_perm p1 o.2.2.1 k, lookup_perm p2 o.2.2.2 k⟩⟩

/-- retention only decides which files stay in the folders, never a summary row -/
theorem retention_invariant {κ : Type} (S : Stats κ) (W : Name → Nat → SimOut κ) (progs : List Name)
    (σ : Sched κ) (n : Nat) (hg : GoodProgs progs) (hσ : σ.Valid) :
    ((runAll S W progs true σ n).ts).Perm (runAll S W progs false σ n).ts ∧
    ((runAll S W progs true σ n).emis).Perm (runAll S W progs false σ n).emis := by
  obtain ⟨a1, a2, _⟩ := runAll_closed_form S W progs true σ n hg hσ
  obtain ⟨b1, b2, _⟩ := runAll_closed_form S W progs false σ n hg hσ
  exact ⟨a1.trans b1.symm, a2.trans b2.symm⟩

/-- estimated emissions of (p, s) are that run's own estimate minus its own correction, floored at
zero, column by column (zero when it wrote no estimate) -/
theorem estimate_floor {κ : Type} (S : Stats κ) (W : Name → Nat → SimOut κ) (progs : List Name)
    (keepAll : Bool) (σ : Sched κ) (n : Nat) (hg : GoodProgs progs) (hσ : σ.Valid) (hp : progs.Nodup)
    (p : Name) (hpm : p ∈ progs) (s : Nat) (hs : s < n) (e r : κ)
    (he : (W p s).est = some e) (hr : (W p s).rep = some r) :
    List.lookup (key p s) (runAll S W progs keepAll σ n).emis
      = some (S.emis (W p s).emis ++ (List.zipWith (fun a b => max (a - b) 0) (S.est e) (S.rep r)).map Val.q) := by
  rw [(own_files_only S W W progs keepAll σ σ n hg hσ hσ hp p hpm s hs).2.1]
  simp [estPart, he, hr, floorSub]

/-- the join itself: whatever the orders in which the estimate files and the correction files were
enumerated, every estimate is paired with the correction of its own key -/
theorem estJoin_perm_invariant {est est' rep rep' : Table (List Rat)} (he : est'.Perm est) (hr : rep'.Perm rep)
    (nde : (keys est).Nodup) (ndr : (keys rep).Nodup) (k : Key) :
    List.lookup k (estJoin est' rep') = (List.lookup k est).map fun e =>
      match List.lookup k rep with
      | some r => List.zipWith (fun a b => max (a - b) 0) e r
      | none => e.map fun _ => 0 := by
  have hj := estJoin_perm he hr ndr
  have ndj : (keys (estJoin est rep)).Nodup := by rw [keys_estJoin]; exact nde
  rw [lookup_perm hj (nodup_keys_of_perm hj.symm ndj) k, lookup_estJoin]
  rfl

/-- Cost Summary: one row per (non-baseline program, simulation), carrying that pair's own total
mitigation and total cost, the ratio `cost / (mitigation / 1000 · GWP)` (undefined when the
denominator is 0) and the value `mitigation · KG_TO_MMBTU · gas price` -/
theorem cost_ratios {κ : Type} (S : Stats κ) (W : Name → Nat → SimOut κ) (progs : List Name)
    (keepAll : Bool) (σ : Sched κ) (n : Nat) (hg : GoodProgs progs) (hσ : σ.Valid) (hp : progs.Nodup)
    (nb : List Name) (econ : Name → Rat × Rat) (K : Rat) :
    (costSummary nb econ K (runAll S W progs keepAll σ n).emis (runAll S W progs keepAll σ n).ts).Perm
      ((List.range n).flatMap fun s => (progs.filter fun p => nb.contains p).map fun p => costRowOf S W econ K p s) ∧
    ∀ p s, (costRowOf S W econ K p s).2.value
              = (costRowOf S W econ K p s).2.mitigation * K * (econ p).2 ∧
           ((costRowOf S W econ K p s).2.mitigation / 1000 * (econ p).1 ≠ 0 →
              (costRowOf S W econ K p s).2.ratio
                = some ((costRowOf S W econ K p s).2.totalCost
                         / ((costRowOf S W econ K p s).2.mitigation / 1000 * (econ p).1))) ∧
           ((costRowOf S W econ K p s).2.mitigation / 1000 * (econ p).1 = 0 →
              (costRowOf S W econ K p s).2.ratio = none) := by
  obtain ⟨hts, hem, _⟩ := runAll_closed_form S W progs keepAll σ n hg hσ
  constructor
  · have nd : (keys (canonTs S W progs (List.range n))).Nodup := by
      rw [keys_canonTs]; exact nodup_canonKeys progs _ hp List.nodup_range
    rw [← costSummary_canon S W progs (List.range n) hp List.nodup_range nb econ K]
    exact costSummary_perm nb econ K hem hts nd
  · exact fun p s => ⟨rfl, fun h => if_neg h, fun h => if_pos h⟩

/-- the cost summary has every (non-baseline program, simulation) exactly once -/
theorem cost_once_each {κ : Type} (S : Stats κ) (W : Name → Nat → SimOut κ) (progs : List Name)
    (keepAll : Bool) (σ : Sched κ) (n : Nat) (hg : GoodProgs progs) (hσ : σ.Valid) (hp : progs.Nodup)
    (nb : List Name) (econ : Name → Rat × Rat) (K : Rat) :
    (keys (costSummary nb econ K (runAll S W progs keepAll σ n).emis (runAll S W progs keepAll σ n).ts)).Perm
      (canonKeys (progs.filter fun p => nb.contains p) (List.range n)) ∧
    (canonKeys (progs.filter fun p => nb.contains p) (List.range n)).Nodup := by
  constructor
  · have h := (cost_ratios S W progs keepAll σ n hg hσ hp nb econ K).1
    have := List.Perm.map (·.1) h
    refine this.trans (List.Perm.of_eq ?_)
    simp [canonKeys, List.map_flatMap, List.map_map, Function.comp_def, costRowOf]
  · exact nodup_canonKeys _ _ (List.Nodup.filter _ hp) List.nodup_range

/-! ### the two cost columns of the mapper's own statistics -/

/-- column `mitCol` of an Emissions Summary row computed by the mapper is Σ mitigated of the file -/
theorem concrete_mit_cell (ys : List Nat) (rows : List EmisRow) (x : List Val) :
    cell (emisStat ys (.emis rows) ++ x) mitCol = sumI (rows.map (·.mitigated)) := by
  simp [cell, emisStat, mitCol, Val.toRat]

/-- column `costCol` of a Timeseries Summary row computed by the mapper is Σ daily cost of the file -/
theorem concrete_cost_cell (rows : List (Int × Int × Int × Int)) :
    cell (tsStat (.ts rows)) costCol = sumI (rows.map (·.2.2.2)) := by
  simp [cell, tsStat, costCol, Val.toRat, col4]

/-- `cost_ratios` for the mapper's statistics: the row of (p, s) carries Σ mitigated of its own
emissions file and Σ daily cost of its own timeseries, and the two formulas are over these sums -/
theorem cost_ratios_concrete (ys : List Nat) (W : Name → Nat → SimOut Content) (econ : Name → Rat × Rat) (K : Rat)
    (p : Name) (s : Nat) (er : List EmisRow) (tr : List (Int × Int × Int × Int))
    (he : (W p s).emis = .emis er) (ht : (W p s).ts = .ts tr) :
    (costRowOf (concreteStats ys) W econ K p s).2.mitigation = sumI (er.map (·.mitigated)) ∧
    (costRowOf (concreteStats ys) W econ K p s).2.totalCost = sumI (tr.map (·.2.2.2)) ∧
    (costRowOf (concreteStats ys) W econ K p s).2.value = sumI (er.map (·.mitigated)) * K * (econ p).2 ∧
    (sumI (er.map (·.mitigated)) / 1000 * (econ p).1 ≠ 0 →
      (costRowOf (concreteStats ys) W econ K p s).2.ratio
        = some (sumI (tr.map (·.2.2.2)) / (sumI (er.map (·.mitigated)) / 1000 * (econ p).1))) := by
  have hm : cell ((concreteStats ys).emis (W p s).emis ++ estPart (concreteStats ys) (W p s)) mitCol
      = sumI (er.map (·.mitigated)) := by
    simp only [concreteStats, he]; exact concrete_mit_cell ys er _
  have hc : cell ((concreteStats ys).ts (W p s).ts) costCol = sumI (tr.map (·.2.2.2)) := by
    simp only [concreteStats, ht]; exact concrete_cost_cell tr
  simp only [costRowOf, hm, hc, costValue, costRatio]
  exact ⟨trivial, trivial, trivial, fun h => if_neg h⟩

/-! ### no history: rows of earlier batches are a frame -/

/-- the rows a summarisation call adds do not depend on the rows already in the summary files, and
the earlier rows are carried over unchanged -/
theorem genAll_frame {κ : Type} (S : Stats κ) (clear : Bool) (visit : List (Name × Listings κ)) (st : St κ) :
    (genAll S clear visit st).ts = st.ts ++ (genAll S clear visit { st with ts := [], emis := [] }).ts ∧
    (genAll S clear visit st).emis = st.emis ++ (genAll S clear visit { st with ts := [], emis := [] }).emis := by
  simp [genAll]

/-- whatever later batches do, the rows written by earlier batches stay a prefix of both tables -/
theorem legacy_rows_preserved {κ : Type} (S : Stats κ) (W : Name → Nat → SimOut κ) (keepAll : Bool) (σ : Sched κ)
    (cs : List Nat) : ∀ (b : Nat) (st : St κ),
    st.ts <+: (runBatches S W keepAll σ b cs st).ts ∧ st.emis <+: (runBatches S W keepAll σ b cs st).emis := by
  induction cs with
  | nil => intro b st; exact ⟨List.prefix_refl _, List.prefix_refl _⟩
  | cons c cs ih =>
    intro b st
    simp only [runBatches]
    have h := ih (b + 1) (genAll S (b != 0 && !keepAll) (visitOf σ b (writeBatch W (batchSims b c) st))
      (writeBatch W (batchSims b c) st))
    exact ⟨(List.prefix_append _ _).trans h.1, (List.prefix_append _ _).trans h.2⟩

/-! ### histories of runs into the same output folder -/

/-- a run does not depend on what the output folder held before: `initialize_outputs` clears it -/
theorem runInFolder_eq_runAll {κ : Type} (S : Stats κ) (W : Name → Nat → SimOut κ) (progs : List Name)
    (keepAll : Bool) (σ : Sched κ) (n : Nat) (prior : St κ) :
    runInFolder S W progs keepAll σ n prior = runAll S W progs keepAll σ n ∧
    runInFolderChecked S W progs keepAll σ n prior = runAllChecked S W progs keepAll σ n :=
  ⟨rfl, rfl⟩

theorem runHistory_snoc {κ : Type} (S : Stats κ) (rs : List (RunSpec κ)) (r : RunSpec κ) (prior : St κ) :
    runHistory S (rs ++ [r]) prior = runInFolder S r.W r.progs r.keepAll r.σ r.n (runHistory S rs prior) := by
  induction rs generalizing prior with
  | nil => rfl
  | cons a rs ih => simp only [List.cons_append, runHistory]; exact ih _

/-- after any history of earlier runs into the same folder, started from any folder state, the
summary tables hold exactly the pairs of the *last* run, each row computed from that run's own
files; nothing of an earlier run is left in a program folder -/
theorem C14_history {κ : Type} (S : Stats κ) (rs : List (RunSpec κ)) (r : RunSpec κ) (prior : St κ)
    (hg : GoodProgs r.progs) (hσ : r.σ.Valid) :
    ((runHistory S (rs ++ [r]) prior).ts).Perm (canonTs S r.W r.progs (List.range r.n)) ∧
    ((runHistory S (rs ++ [r]) prior).emis).Perm (canonEmis S r.W r.progs (List.range r.n)) ∧
    (runHistory S (rs ++ [r]) prior).dirs.map (·.1) = r.progs ∧
    (∀ pd ∈ (runHistory S (rs ++ [r]) prior).dirs, ∀ e ∈ pd.2, isKept e.name = true) := by
  rw [runHistory_snoc, (runInFolder_eq_runAll S r.W r.progs r.keepAll r.σ r.n _).1]
  have h := runAll_inv S r.W r.progs hg r.keepAll r.σ hσ r.n
  exact ⟨h.ts, h.emis, h.names, h.kept⟩

/-- why the clean-up matters: a batch loop started in a folder that still holds the summary files
of an earlier run keeps every one of those rows (they are taken for rows of earlier batches) -/
theorem uncleared_folder_keeps_stale_rows {κ : Type} (S : Stats κ) (W : Name → Nat → SimOut κ)
    (progs : List Name) (keepAll : Bool) (σ : Sched κ) (n : Nat) (prior : St κ) :
    prior.ts <+: (runWithoutInit S W progs keepAll σ n prior).ts ∧
    prior.emis <+: (runWithoutInit S W progs keepAll σ n prior).emis :=
  legacy_rows_preserved S W keepAll σ _ 0 (mkProgDirs _ prior)

/-- a two-run history with a smaller second run: nothing of the first run is left (6 rows); without
the clean-up the 14 rows of the first run would still be there (20 rows) -/
example :
    let S : Stats Nat :=
      { ts := fun c => [Val.q c], emis := fun c => [Val.q c], est := fun _ => [], rep := fun _ => [],
        nEmis := 1, nYears := 0, okTs := fun _ => true, okEmis := fun _ => true, okEst := fun _ => true }
    let r1 : RunSpec Nat := { W := fun _ s => { ts := 100 + s, emis := s, est := none, rep := none },
                              progs := ["P_A".toList, "P_B".toList], keepAll := true, σ := mixedSched Nat, n := 7 }
    let r2 : RunSpec Nat := { W := fun _ s => { ts := 900 + s, emis := s, est := none, rep := none },
                              progs := ["P_B".toList, "P_A".toList], keepAll := false, σ := idSched Nat, n := 3 }
    let st := runHistory S [r1, r2] { dirs := [("old".toList, [])], ts := [(key "x".toList 0, [])], emis := [] }
    st.ts.length = 6 ∧ st.dirs.length = 2 ∧ List.lookup (key "P_A".toList 2) st.ts = some [Val.q 902] ∧
    (runWithoutInit S r2.W r2.progs false (idSched Nat) 3 (runHistory S [r1] (initSt []))).ts.length = 20 := by
  decide +kernel

/-! ### the extrapolation of the estimated emissions to unmeasured sites -/

/-- a measured site counts with its own annual value -/
theorem contribution_measured (info : List SiteInfo) (x : SiteInfo) (h : x.2.2.1 = true) :
    contribution info x = x.2.2.2 := by
  simp [contribution, h]

/-- an unmeasured site of a type with measured sites gets the average over the measured sites of
that type -/
theorem contribution_same_type (info : List SiteInfo) (x : SiteInfo) (h : x.2.2.1 = false)
    (hs : ((measuredSites info).filter fun y => y.2.1 == x.2.1) ≠ []) :
    contribution info x
      = sumR (((measuredSites info).filter fun y => y.2.1 == x.2.1).map (·.2.2.2))
        / ((((measuredSites info).filter fun y => y.2.1 == x.2.1).map (·.2.2.2)).length : Rat) := by
  simp only [contribution, h, Bool.false_eq_true, if_false, List.isEmpty_eq_false_iff.mpr hs, meanR]

/-- the fall-back: an unmeasured site whose type has no measured site gets the sum over ALL measured
sites divided by the NUMBER OF measured SITES -/
theorem contribution_fallback (info : List SiteInfo) (x : SiteInfo) (h : x.2.2.1 = false)
    (hs : ((measuredSites info).filter fun y => y.2.1 == x.2.1) = []) (hm : measuredSites info ≠ []) :
    contribution info x
      = sumR ((measuredSites info).map (·.2.2.2)) / (((measuredSites info).map (·.2.2.2)).length : Rat) := by
  simp only [contribution, h, Bool.false_eq_true, if_false, hs, List.isEmpty_nil, if_true,
    List.isEmpty_eq_false_iff.mpr hm, meanR]

/-- the other reading of "average of all measured sites": the unweighted mean of the per-type means -/
def meanOfTypeMeans (info : List SiteInfo) : Rat :=
  let types := dedup ((measuredSites info).map (·.2.1))
  meanR (types.map fun t => meanR (((measuredSites info).filter fun y => y.2.1 == t).map (·.2.2.2)))

/-- the two readings differ: type 0 with measured sites 100, 200, 300, type 1 with one measured site
1000, type 2 with one unmeasured site.  The model (and the code) gives the unmeasured site
1600 / 4 = 400; the mean of the type means would be (200 + 1000) / 2 = 600 -/
theorem fallback_is_not_mean_of_type_means :
    ∃ (info : List SiteInfo) (x : SiteInfo), x ∈ info ∧ x.2.2.1 = false ∧
      contribution info x = 400 ∧ meanOfTypeMeans info = 600 ∧ extrapolateInfo info = 2000 := by
  refine ⟨[(1, 0, true, 100), (2, 0, true, 200), (3, 0, true, 300), (4, 1, true, 1000), (5, 2, false, 0)],
    (5, 2, false, 0), ?_, rfl, ?_, ?_, ?_⟩ <;> decide +kernel

/-! ### batching -/

/-- the batch sizes add up to the number of simulations -/
theorem batch_sizes_sum (n : Nat) : (batchSimulations n).sum = n := by
  unfold batchSimulations
  split
  · split
    · simp [List.sum_append]; omega
    · simp; omega
  · simp

/-- no batch holds more than five simulations -/
theorem batch_sizes_le_five (n : Nat) : ∀ c ∈ batchSimulations n, c ≤ 5 := by
  unfold batchSimulations
  intro c hc
  split at hc
  · rw [List.mem_append] at hc
    rcases hc with hc | hc
    · rw [List.mem_replicate] at hc; omega
    · split at hc
      · simp at hc; omega
      · simp at hc
  · simp at hc; omega

/-- the simulation numbers `batch · 5 + i` over all batches are exactly `0 .. n-1`, in order -/
theorem batch_sims_eq_range (n : Nat) : allSims 0 (batchSimulations n) = List.range n :=
  allSims_batchSimulations n

/-! ### yearly share

Calendar facts behind the day counts: the model's ordinals give every year 365 or 366 days and
February 28 or 29 (Gregorian rule). -/

def isLeap (y : Nat) : Bool := (y % 4 == 0 && y % 100 != 0) || y % 400 == 0

theorem year_length (y : Nat) (_hy : 1 ≤ y) :
    (⟨y + 1, 1, 1⟩ : Date).ord - (⟨y, 1, 1⟩ : Date).ord = if isLeap y then 366 else 365 := by
  have := marchDays_step y (isLeap y) rfl
  simp [Date.ord_eq]
  omega

theorem feb_length (y : Nat) (_hy : 1 ≤ y) :
    (⟨y, 3, 1⟩ : Date).ord - (⟨y, 2, 28⟩ : Date).ord = if isLeap y then 2 else 1 := by
  have := marchDays_step y (isLeap y) rfl
  generalize isLeap y = leap at this ⊢
  cases leap <;> simp [Date.ord_eq, monthOffset] at this ⊢ <;> omega

theorem window_complete (v : Int) (st en : Date) (lo hi : Nat) (h1 : lo ≤ st.y) (h2 : st.y ≤ en.y)
    (h3 : en.y ≤ hi) (hT : en.ord - st.ord + 1 ≠ 0) :
    sumTo (fun i => yearlyShare [(v, some st, some en)] (lo + i)) (hi - lo + 1) = v := by
  have hT' : ((en.ord - st.ord + 1 : Int) : Rat) ≠ 0 := by exact_mod_cast hT
  simp only [share_closed_counted v st en h2 hT]
  refine (sumTo_telescope (fun i => (v : Rat) * (countedBefore st en (lo + i) : Rat) / _) _).trans ?_
  simp (disch := omega) only [countedBefore, if_pos, if_neg]
  field_simp
  push_cast; ring

/-- the yearly shares of a closed record over the years it touches add up to its value (also
through leap years) -/
theorem yearly_shares_complete (v : Int) (st en : Date) (hy : st.y ≤ en.y) (hT : en.ord - st.ord + 1 ≠ 0) :
    sumTo (fun i => yearlyShare [(v, some st, some en)] (st.y + i)) (en.y - st.y + 1) = v :=
  window_complete v st en st.y en.y (le_refl _) hy (le_refl _) hT

/-- what the property asks of the yearly share: over the simulated years `lo .. hi` the shares of a
frame add up to the total of its values — for closed records (start ≤ end, both inside the period)
and for open-ended ones (no end date: still active when the simulation ends).  `m` is the latest
date recorded in the frame; real dates are valid and none of them lies in a year after `m`'s -/
def C14_yearly_statement : Prop :=
  ∀ (rows : List (Int × Option Date × Option Date)) (lo hi : Nat) (m : Date),
    latestDate rows = some m → m.y ≤ hi →
    (∀ r ∈ rows, ∃ st, r.2.1 = some st ∧ ValidDate st ∧ lo ≤ st.y ∧ st.y ≤ m.y ∧
      ∀ en, r.2.2 = some en → st.y ≤ en.y ∧ en.y ≤ hi ∧ st.ord ≤ en.ord) →
    sumTo (fun i => yearlyShare rows (lo + i)) (hi - lo + 1) = sumI (rows.map (·.1))

theorem sumTo_frame (rows : List (Int × Option Date × Option Date)) (lo k : Nat)
    (c : Int × Option Date × Option Date → Int × Option Date × Option Date)
    (hf : ∀ y, yearlyShare rows y = sumR (rows.map fun r => yearlyShare [c r] y))
    (hr : ∀ r ∈ rows, sumTo (fun i => yearlyShare [c r] (lo + i)) k = r.1) :
    sumTo (fun i => yearlyShare rows (lo + i)) k = sumI (rows.map (·.1)) := by
  simp only [hf]
  rw [sumTo_sumR (fun i r => yearlyShare [c r] (lo + i)), sumI_eq_sumR, List.map_map]
  exact congrArg sumR (List.map_congr_left hr)

/-- the provable part: frames of closed records (every estimation window; every leak that ended) -/
theorem C14_yearly_partial (rows : List (Int × Option Date × Option Date)) (lo hi : Nat)
    (h : ∀ r ∈ rows, ∃ st en, r.2.1 = some st ∧ r.2.2 = some en ∧ lo ≤ st.y ∧ st.y ≤ en.y ∧ en.y ≤ hi ∧
      st.ord ≤ en.ord) :
    sumTo (fun i => yearlyShare rows (lo + i)) (hi - lo + 1) = sumI (rows.map (·.1)) := by
  refine sumTo_frame rows lo _ id (fun y => yearlyShare_closed_frame rows y fun r hr => ?_) fun r hr => ?_
  · obtain ⟨_, en, _, he, _⟩ := h r hr; exact ⟨en, he⟩
  · obtain ⟨v, s', e'⟩ := r
    obtain ⟨st, en, hs, he, h1, h2, h3, h4⟩ := h _ hr
    cases hs; cases he
    exact window_complete v st en lo hi h1 h2 h3 (by omega)

/-- C14 for the yearly share (repaired code, e320a70): closed and open-ended records alike, the
shares over the simulated years add up to the value.  An open record lasts until Dec 31 of the
latest year recorded in the frame, which is never before its own start -/
theorem C14_yearly : C14_yearly_statement := by
  intro rows lo hi m hm hhi h
  refine sumTo_frame rows lo _ (closeRow m.y) (fun y => yearlyShare_latest rows y m hm) fun r hr => ?_
  obtain ⟨v, s', e'⟩ := r
  obtain ⟨st, hs, hv, h1, h2, hen⟩ := h _ hr
  cases hs
  cases e' with
  | some en =>
    obtain ⟨h3, h4, h5⟩ := hen en rfl
    exact window_complete v st en lo hi h1 h3 h4 (by omega)
  | none =>
    have := ord_le_eoy st hv m.y h2
    exact window_complete v st ⟨m.y, 12, 31⟩ lo hi h1 h2 hhi (by omega)

/-- regression witnesses of e320a70 (the three shapes of the former finding
C14-open-ended-yearly-share on the unrepaired code: division by zero, −108.06, 40150): an open-ended
10 kg record that starts on Jan 1 / Feb 1 of the year after the latest recorded end date counts with
its 10 kg in that year; a 110 kg record open since 2021-12-31 counts in 2021 and not in 2022 -/
example :
    yearlyShare [(10, some ⟨2023, 3, 1⟩, some ⟨2023, 6, 1⟩), (10, some ⟨2024, 1, 1⟩, none)] 2024 = 10 ∧
    yearlyShare [(10, some ⟨2023, 3, 1⟩, some ⟨2023, 6, 1⟩), (10, some ⟨2024, 2, 1⟩, none)] 2024 = 10 ∧
    yearlyShare [(10, some ⟨2023, 3, 1⟩, some ⟨2023, 6, 1⟩), (10, some ⟨2024, 2, 1⟩, none)] 2023 = 10 ∧
    yearlyShare [(53, some ⟨2021, 8, 31⟩, some ⟨2021, 10, 1⟩), (110, some ⟨2021, 12, 31⟩, none)] 2021 = 163 ∧
    yearlyShare [(53, some ⟨2021, 8, 31⟩, some ⟨2021, 10, 1⟩), (110, some ⟨2021, 12, 31⟩, none)] 2022 = 0 ∧
    -- the usual case keeps its shares: open since 2023-11-01 while another record ends in 2024
    yearlyShare [(0, some ⟨2024, 3, 1⟩, some ⟨2024, 6, 1⟩), (427, some ⟨2023, 11, 1⟩, none)] 2023 = 61 ∧
    yearlyShare [(0, some ⟨2024, 3, 1⟩, some ⟨2024, 6, 1⟩), (427, some ⟨2023, 11, 1⟩, none)] 2024 = 366 := by
  decide +kernel

/-- the hypotheses of `C14_yearly` hold of such a frame -/
example :
    latestDate [(0, some ⟨2024, 3, 1⟩, some ⟨2024, 6, 1⟩), (427, some ⟨2023, 11, 1⟩, none)] = some ⟨2024, 6, 1⟩ ∧
    ValidDate ⟨2023, 11, 1⟩ := by
  refine ⟨by decide +kernel, by unfold ValidDate; decide⟩

/-! ### the years the summaries are built for -/

/-- the years of a period are exactly the calendar years from its first to its last day -/
theorem mem_yearsOf (ps pe : Date) (h : ps.y ≤ pe.y) (y : Nat) : y ∈ yearsOf ps pe ↔ ps.y ≤ y ∧ y ≤ pe.y := by
  simp only [yearsOf, List.mem_map, List.mem_range]
  constructor
  · rintro ⟨i, hi, rfl⟩; omega
  · intro hy; exact ⟨y - ps.y, by omega, by omega⟩

/-- over exactly the years of the period (`calc_simulation_years`) the yearly cells of a frame add up
to the total of its values, for every frame whose records lie inside the period (closed or still
open at the end) -/
theorem C14_years_complete (rows : List (Int × Option Date × Option Date)) (ps pe m : Date)
    (hm : latestDate rows = some m) (hmy : m.y ≤ pe.y)
    (h : ∀ r ∈ rows, ∃ st, r.2.1 = some st ∧ ValidDate st ∧ ps.y ≤ st.y ∧ st.y ≤ m.y ∧
      ∀ en, r.2.2 = some en → st.y ≤ en.y ∧ en.y ≤ pe.y ∧ st.ord ≤ en.ord) :
    sumR ((yearsOf ps pe).map (yearlyShare rows)) = sumI (rows.map (·.1)) := by
  rw [← C14_yearly rows ps.y pe.y m hm hmy h, sumTo_eq_sumR_range, yearsOf, List.map_map]
  rfl

/-- with the survey planner's whole-year list the last calendar year of a period that ends earlier
in the calendar than it starts is missing: 10 kg emitted in January 2018 of a run 2017-11-01 ..
2018-02-28 appear in no yearly cell -/
theorem planner_years_lose_the_last_year :
    ∃ (rows : List (Int × Option Date × Option Date)) (ps pe : Date),
      yearsOf ps pe = [2017, 2018] ∧ plannerYears ps pe = [2017] ∧
      sumR ((yearsOf ps pe).map (yearlyShare rows)) = 10 ∧
      sumR ((plannerYears ps pe).map (yearlyShare rows)) = 0 := by
  refine ⟨[(10, some ⟨2018, 1, 5⟩, some ⟨2018, 1, 20⟩)], ⟨2017, 11, 1⟩, ⟨2018, 2, 28⟩, ?_, ?_, ?_, ?_⟩ <;>
    decide +kernel

/-! ### non-vacuity -/

/-- 731 kg over 2023-07-01 .. 2025-06-30 (through the leap year 2024): 184 + 366 + 181 -/
example :
    let r : Int × Option Date × Option Date := (731, some ⟨2023, 7, 1⟩, some ⟨2025, 6, 30⟩)
    yearlyShare [r] 2023 = 184 ∧ yearlyShare [r] 2024 = 366 ∧ yearlyShare [r] 2025 = 181 ∧
    (⟨2025, 6, 30⟩ : Date).ord - (⟨2023, 7, 1⟩ : Date).ord + 1 = 731 := by
  decide +kernel

example : GoodProgs ["P_A".toList, "unkept".toList, "P_Logs".toList, "A_1".toList] := by
  unfold GoodProgs; decide

/-- a concrete world: two programs, seven simulations (two batches), outputs cleared after the
first batch, mixed enumeration orders; estimate 9/2 and 7 against corrections 1 and 10 -/
example :
    let S : Stats Nat :=
      { ts := fun c => [Val.q c], emis := fun c => [Val.q (c + 1)], est := fun c => [(c : Rat) / 2, 7],
        rep := fun c => [(c : Rat), 10], nEmis := 1, nYears := 2,
        okTs := fun _ => true, okEmis := fun _ => true, okEst := fun _ => true }
    let W : Name → Nat → SimOut Nat := fun p s =>
      { ts := p.length * 100 + s, emis := s, est := if p.length = 3 then some 9 else none,
        rep := if p.length = 3 then some 1 else none }
    let r := runAll S W ["P_A".toList, "base".toList] false (mixedSched Nat) 7
    r.ts.length = 14 ∧ r.emis.length = 14 ∧
    List.lookup (key "P_A".toList 6) r.emis = some [Val.q 7, Val.q (7 / 2), Val.q 0] ∧
    List.lookup (key "base".toList 5) r.emis = some [Val.q 6, Val.q 0, Val.q 0] ∧
    List.lookup (key "P_A".toList 3) r.ts = some [Val.q 303] ∧
    (r.dirs.map fun pd => pd.2.length) = [20, 10] := by
  decide +kernel

end LdarModel.Summary
