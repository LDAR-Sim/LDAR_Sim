import LdarModel.Lemmas.Gen
import LdarModel.Lemmas.Units
import LdarModel.Generated.Units
import LdarModel.Generated.EmisSeed
import LdarModel.Generated.GenState
import LdarModel.Generated.SimNumber
import LdarModel.Generated.GenMarker
import Mathlib.Data.List.Perm.Subperm
import Mathlib.Data.List.Range
import Mathlib.Data.List.Nodup
/-
C16 — generated emissions respect their parameters, units and replicate independence.

Models: `Model/Gen.lean` (`generate`, `genSeeds`, `scenarios`), `Model/Units.lean` (`gasConvert`,
`convertD`, `unitConversion`, `sampleRate`, `distRate`, `toUnit`, `Consistent`).
Tables regenerated from /repo on every run: `Generated/Units.lean` (conversion dictionaries,
defaults and body literals of gas_convert), `Generated/EmisSeed.lean` (randint range of gen_seed_emis,
seed index of the two generation loops), `Generated/GenState.lean` (state that could survive between
cases), `Generated/SimNumber.lean` (numbering expression of the two run loops),
`Generated/GenMarker.lean` (where `n_sim_saved.p` is removed and written).

Generation clauses are over every pair of Bernoulli outcome lists, duration, multi-emission flag and
pre-simulation setting; the period is day `0 .. N-1` with `N = sim.length`.
-/
namespace LdarModel.C16
open LdarModel.Gen LdarModel.Units

/-- the generation half: date bounds, no pre-period emissions when disabled, no overlap for
single-emission sources, unique ids, pending list in start-date order -/
def GenClauses : Prop :=
  ∀ (pre sim : List Bool) (dur : Nat) (multi preEnabled : Bool),
    (∀ e ∈ generate pre sim dur multi preEnabled,
        -(dur : Int) ≤ e.start ∧ e.start ≤ (sim.length : Int) - 1)
    ∧ (preEnabled = false → ∀ e ∈ generate pre sim dur multi preEnabled, 0 ≤ e.start)
    ∧ (multi = false →
        (popOrder (generate pre sim dur multi preEnabled)).Pairwise
          (fun a b => a.start + (dur : Int) < b.start))
    ∧ ((generate pre sim dur multi preEnabled).map (·.id)).Nodup
    ∧ ((popOrder (generate pre sim dur multi preEnabled)).map (·.start)).Pairwise (· < ·)

/-- the unit half, for a table `T`: a rate written in any SI-defined unit comes out as the same
g/s value through both kinds of rate source, and no rate exceeds the converted maximum -/
def UnitClauses (T : Table) : Prop :=
  (∀ (m i : String) (s cap xs xc : Rat), toUnit m i s = some xs → toUnit m i cap = some xc →
      sampleRate T m i xs xc = some (capAt cap s) ∧ distRate T m i xs xc = some (capAt cap s))
  ∧ (∀ (m i : String) (s cap r : Rat), sampleRate T m i s cap = some r →
      ∃ c, unitConversion T m i cap = some c ∧ r ≤ c)
  ∧ (∀ (m i : String) (d cap r : Rat), distRate T m i d cap = some r →
      ∃ c, convertD T m i cap = some c ∧ r ≤ c)

/-- the replicate half: whatever `randint` returns inside its range, the per-simulation seeds are
pairwise distinct (so that different simulation numbers start from different generator states) -/
def SeedsDistinct (lo hi : Nat) : Prop :=
  ∀ (draws : List Nat) (nSim : Nat), (∀ d ∈ draws, lo ≤ d ∧ d < hi) → nSim ≤ draws.length →
    (genSeeds [] draws nSim).Nodup

/-- C16 at full strength, for the tables of the current source tree -/
def C16_statement : Prop :=
  GenClauses ∧ UnitClauses Generated.Units.table
    ∧ SeedsDistinct Generated.EmisSeed.seedLow Generated.EmisSeed.seedHigh

theorem mem_generate {pre sim : List Bool} {dur : Nat} {multi preEnabled : Bool} {e : Em}
    (h : e ∈ generate pre sim dur multi preEnabled) :
    e ∈ prePart pre dur multi preEnabled ∨ e ∈ simPart pre sim dur multi preEnabled := by
  unfold generate at h
  rw [List.mem_reverse, created_eq, List.mem_append] at h
  exact h

/-- every generated emission starts between (period start − duration) and the period end -/
theorem date_bounds (pre sim : List Bool) (dur : Nat) (multi preEnabled : Bool) :
    ∀ e ∈ generate pre sim dur multi preEnabled,
      -(dur : Int) ≤ e.start ∧ e.start ≤ (sim.length : Int) - 1 := by
  intro e he
  rcases mem_generate he with h | h
  · have := prePart_bounds pre dur multi preEnabled e h; omega
  · have := simPart_bounds pre sim dur multi preEnabled e h; omega

/-- none starts before the period when pre-simulation emissions are disabled -/
theorem no_presim_when_disabled (pre sim : List Bool) (dur : Nat) (multi : Bool) :
    ∀ e ∈ generate pre sim dur multi false, 0 ≤ e.start := by
  intro e he
  rcases mem_generate he with h | h
  · cases h
  · exact (simPart_bounds pre sim dur multi false e h).1

theorem popOrder_generate (pre sim : List Bool) (dur : Nat) (multi preEnabled : Bool) :
    popOrder (generate pre sim dur multi preEnabled) = created pre sim dur multi preEnabled :=
  List.reverse_reverse _

/-- popping the pending list from its end yields the emissions in strictly increasing start-date
order — `Source.activate_emissions` may stop at the first emission that is not yet due (the
hypothesis `sortedByStart` of C01 `activate_complete`) -/
theorem generate_sorted (pre sim : List Bool) (dur : Nat) (multi preEnabled : Bool) :
    ((popOrder (generate pre sim dur multi preEnabled)).map (·.start)).Pairwise (· < ·) := by
  rw [popOrder_generate, created_eq, List.map_append, List.pairwise_append]
  refine ⟨prePart_sorted pre dur multi preEnabled, simPart_sorted pre sim dur multi preEnabled, ?_⟩
  intro a ha b hb
  obtain ⟨ea, hea, rfl⟩ := List.mem_map.mp ha
  obtain ⟨eb, heb, rfl⟩ := List.mem_map.mp hb
  have := prePart_bounds pre dur multi preEnabled ea hea
  have := simPart_bounds pre sim dur multi preEnabled eb heb
  omega

/-- the stored list itself is in strictly decreasing start-date order -/
theorem generate_descending (pre sim : List Bool) (dur : Nat) (multi preEnabled : Bool) :
    ((generate pre sim dur multi preEnabled).map (·.start)).Pairwise (· > ·) := by
  have h := generate_sorted pre sim dur multi preEnabled
  unfold popOrder at h
  rw [List.map_reverse, List.pairwise_reverse] at h
  exact h

/-- a source that cannot hold multiple emissions: any two of its emissions start more than
`dur` days apart (the later one starts after start + duration of the earlier one) -/
theorem no_overlap_single (pre sim : List Bool) (dur : Nat) (preEnabled : Bool) :
    (popOrder (generate pre sim dur false preEnabled)).Pairwise
      (fun a b => a.start + (dur : Int) < b.start) := by
  rw [popOrder_generate, created_eq, simPart]
  have hl := prePart_single_length pre dur preEnabled
  generalize prePart pre dur false preEnabled = p at hl ⊢
  have hg := simLoop_gap dur (hits sim 0) (lastAfterPre dur false p) p.length
  match p, hl with
  | [], _ => exact hg.2
  | [x], _ => exact List.pairwise_cons.mpr hg

/-- emission identifiers are unique per source and simulation: they are `0 .. n-1` in creation order -/
theorem ids_unique (pre sim : List Bool) (dur : Nat) (multi preEnabled : Bool) :
    ((generate pre sim dur multi preEnabled).map (·.id)).Nodup := by
  unfold generate
  rw [List.map_reverse, List.nodup_reverse, created_ids]
  exact List.nodup_range

theorem ids_are_creation_index (pre sim : List Bool) (dur : Nat) (multi preEnabled : Bool) :
    (popOrder (generate pre sim dur multi preEnabled)).map (·.id)
      = List.range (generate pre sim dur multi preEnabled).length := by
  rw [popOrder_generate, created_ids, generate, List.length_reverse]

theorem gen_clauses : GenClauses := by
  intro pre sim dur multi preEnabled
  refine ⟨date_bounds pre sim dur multi preEnabled, ?_, ?_, ids_unique pre sim dur multi preEnabled,
    generate_sorted pre sim dur multi preEnabled⟩
  · rintro rfl
    exact no_presim_when_disabled pre sim dur multi
  · rintro rfl
    exact no_overlap_single pre sim dur preEnabled

/-- the converter is linear (homogeneous) in the quantity, failures included -/
theorem convert_linear (T : Table) (m i : String) (c q : Rat) :
    convertD T m i (c * q) = (convertD T m i q).map (c * ·) :=
  convertD_scale T m i c q

theorem unit_conversion_linear (T : Table) (m i : String) (c q : Rat) :
    unitConversion T m i (c * q) = (unitConversion T m i q).map (c * ·) := by
  unfold unitConversion
  split
  · rfl
  · exact convertD_scale T m i c q

/-- unit invariance: under a consistent table a physical rate written in any SI-defined mass unit
per second/minute/hour/day converts back to the same g/s value -/
theorem unit_invariance (T : Table) (hC : Consistent T) (m i : String) (q x : Rat)
    (hx : toUnit m i q = some x) : unitConversion T m i x = some q := by
  simpa using hC.si.unitConversion hx

/-- … and therefore both kinds of rate source yield the same capped g/s rate whatever the unit -/
theorem rate_invariance (T : Table) (hC : Consistent T) (m i : String) (s cap xs xc : Rat)
    (hs : toUnit m i s = some xs) (hc : toUnit m i cap = some xc) :
    sampleRate T m i xs xc = some (capAt cap s) ∧ distRate T m i xs xc = some (capAt cap s) := by
  simpa using hC.si.rates zero_le_one hs hc

/-- a sampled rate never exceeds the declared maximum (both in g/s) -/
theorem cap_respected (T : Table) (m i : String) (s cap r : Rat)
    (h : sampleRate T m i s cap = some r) : ∃ c, unitConversion T m i cap = some c ∧ r ≤ c := by
  unfold sampleRate at h
  obtain ⟨s', -, h⟩ := Option.bind_eq_some_iff.mp h
  obtain ⟨c, hc, h⟩ := Option.bind_eq_some_iff.mp h
  exact ⟨c, hc, Option.some.inj h ▸ capAt_le c s'⟩

/-- a rate drawn from a distribution never exceeds the declared maximum converted to g/s, for any
table with positive entries -/
theorem cap_respected_dist (T : Table) (hP : Pos T) (m i : String) (d cap r : Rat)
    (h : distRate T m i d cap = some r) : ∃ c, convertD T m i cap = some c ∧ r ≤ c := by
  rw [distRate, convertD_eq_factor] at h
  obtain ⟨f, hf, rfl⟩ := Option.map_eq_some_iff.mp h
  exact ⟨cap * f, by rw [convertD_eq_factor, hf]; rfl,
    mul_le_mul_of_nonneg_right (capAt_le cap d) (factor_pos hP hf).le⟩

/-! ### table obligations (re-opened whenever /repo changes the dictionaries) -/

theorem Units.table_positive : Pos Generated.Units.table :=
  { inM := by decide +kernel, outM := by decide +kernel, inc := by decide +kernel,
    sub := by decide +kernel, gas := by decide +kernel, gpt := by decide +kernel,
    args := { gwp := by decide +kernel, ng := by decide +kernel, pres := by decide +kernel,
              temp := by decide +kernel } }

theorem Units.table_keys : Keys Generated.Units.table Generated.Units.table.defaults :=
  { inMetric := by decide +kernel, inInc := by decide +kernel, inSub := by decide +kernel,
    outMetric := by decide +kernel, outInc := by decide +kernel, outSub := by decide +kernel,
    pres := by decide +kernel, temp := by decide +kernel }

/-- every supported (metric, increment) pair converts (no missing key, no zero divisor) with a
positive factor: the entries are positive, so it is enough that the lowered names are found -/
theorem Units.all_pairs_convert :
    ∀ m ∈ Generated.Units.table.inMetrics, ∀ i ∈ Generated.Units.table.increments,
      ∃ f, factor Generated.Units.table m.name i.1 = some f ∧ 0 < f := by
  have hM : ∀ m ∈ Generated.Units.table.inMetrics,
      (lookupM Generated.Units.table.inMetrics m.name.toLower).isSome := by decide +kernel
  have hI : ∀ i ∈ Generated.Units.table.increments,
      (lookupR Generated.Units.table.increments i.1.toLower).isSome := by decide +kernel
  intro m hm i hi
  exact factor_defined Units.table_positive
    { Units.table_keys with inMetric := hM m hm, inInc := hI i hi }

/-- NOT coverage of the clause (private, not counted as an obligation): what a repair of the
seconds-per-year entry would restore — with `365 · 86400` in place of the tabulated value the table
would be consistent … -/
private theorem Units.consistent_with_exact_second :
    Consistent (withSecond Generated.Units.table (365 * 86400)) := by decide +kernel

/-- … and with the tabulated value it is not (known finding F10b: `increments["second"]` is
31 540 000, sixty times the minutes-per-year entry is 31 536 000) -/
theorem Units.not_consistent : ¬ Consistent Generated.Units.table := by decide +kernel

/-- NOT coverage (private): the full unit half would hold for a table with the exact
seconds-per-year entry — a table the code does not have -/
private theorem unit_clauses_with_exact_second :
    UnitClauses (withSecond Generated.Units.table (365 * 86400)) := by
  exact ⟨fun m i s cap xs xc hs hc =>
      rate_invariance _ Units.consistent_with_exact_second m i s cap xs xc hs hc,
    cap_respected _, cap_respected_dist _ (Units.table_positive.withSecond (by norm_num))⟩

/-! ### what holds of the REAL table, for every quantity -/

/-- drift factor of the current table on the SI-defined units: per-second input is exact, every
other increment comes out multiplied by 31 536 000 / 31 540 000 -/
def driftK (i : String) : Rat := if i = "second" then 1 else 7884 / 7885

theorem driftK_pos (i : String) : 0 < driftK i := by
  unfold driftK; split <;> norm_num

theorem Units.table_si : SIUpTo Generated.Units.table driftK where
  names := by decide +kernel
  defaults := by decide +kernel
  gwp := by decide +kernel
  second := rfl
  mass := ⟨_, rfl, rfl, by norm_num, fun m g h => by
    rcases siGrams_cases h with ⟨rfl, rfl⟩ | ⟨rfl, rfl⟩ | ⟨rfl, rfl⟩ <;>
      exact ⟨_, rfl, rfl, by norm_num⟩⟩
  time := ⟨_, rfl, by norm_num, fun i s h => by
    rcases siSeconds_cases h with ⟨rfl, rfl⟩ | ⟨rfl, rfl⟩ | ⟨rfl, rfl⟩ | ⟨rfl, rfl⟩ <;>
      exact ⟨_, rfl, by decide +kernel⟩⟩

/-- for ALL q: a rate of `q` g/s written in an SI-defined unit converts to exactly
`driftK i · q` g/s with the table of the current tree -/
theorem si_drift_all (m i : String) (q x : Rat) (hx : toUnit m i q = some x) :
    convertD Generated.Units.table m i x = some (driftK i * q) :=
  Units.table_si.convertD hx

/-- exact size of the deviation on the SI-defined units: per-second input is exact, every other
increment is off by the factor 31 536 000 / 31 540 000 = 7884/7885 -/
theorem Units.si_drift :
    ∀ m ∈ ["gram", "kilogram", "tonne"], ∀ i ∈ ["second", "minute", "hour", "day"],
      (do let x ← toUnit m i 1; convertD Generated.Units.table m i x)
        = some (if i = "second" then 1 else 7884 / 7885) := by
  intro m hm i hi
  obtain ⟨g, hg⟩ := Option.isSome_iff_exists.mp
    ((by decide +kernel : ∀ m ∈ ["gram", "kilogram", "tonne"], (siGrams m).isSome) m hm)
  obtain ⟨s, hs⟩ := Option.isSome_iff_exists.mp
    ((by decide +kernel : ∀ i ∈ ["second", "minute", "hour", "day"], (siSeconds i).isSome) i hi)
  refine Option.bind_eq_some_iff.mpr ⟨_, toUnit_of hg hs 1, ?_⟩
  rw [si_drift_all m i 1 _ (toUnit_of hg hs 1), driftK, mul_one]

/-- the clause "g/s whatever the unit" as it holds of the code's own table, for every population:
both kinds of rate source return `driftK i` times the capped physical rate … -/
theorem real_table_rates (m i : String) (s cap xs xc : Rat)
    (hs : toUnit m i s = some xs) (hc : toUnit m i cap = some xc) :
    sampleRate Generated.Units.table m i xs xc = some (driftK i * capAt cap s)
    ∧ distRate Generated.Units.table m i xs xc = some (driftK i * capAt cap s) :=
  Units.table_si.rates (driftK_pos i).le hs hc

/-- … hence files written in SI units with the SAME time unit give identical rates (exact unit
invariance across gram/kilogram/tonne), and per-second files give the physical rates -/
theorem same_increment_same_rates (m₁ m₂ i : String) (s cap x₁ c₁ x₂ c₂ : Rat)
    (h₁ : toUnit m₁ i s = some x₁) (hc₁ : toUnit m₁ i cap = some c₁)
    (h₂ : toUnit m₂ i s = some x₂) (hc₂ : toUnit m₂ i cap = some c₂) :
    sampleRate Generated.Units.table m₁ i x₁ c₁ = sampleRate Generated.Units.table m₂ i x₂ c₂
    ∧ distRate Generated.Units.table m₁ i x₁ c₁ = distRate Generated.Units.table m₂ i x₂ c₂ := by
  have a := real_table_rates m₁ i s cap x₁ c₁ h₁ hc₁
  have b := real_table_rates m₂ i s cap x₂ c₂ h₂ hc₂
  exact ⟨a.1.trans b.1.symm, a.2.trans b.2.symm⟩

theorem per_second_rates_exact (m : String) (s cap xs xc : Rat)
    (hs : toUnit m "second" s = some xs) (hc : toUnit m "second" cap = some xc) :
    sampleRate Generated.Units.table m "second" xs xc = some (capAt cap s)
    ∧ distRate Generated.Units.table m "second" xs xc = some (capAt cap s) := by
  have h := real_table_rates m "second" s cap xs xc hs hc
  simpa [driftK] using h

/-- the unit half of the statement is false for the current table: 3.6 kg/h is 1 g/s, the
converter returns 7884/7885 g/s -/
theorem unit_invariance_counterexample : ¬ UnitClauses Generated.Units.table := by
  intro h
  have hs : toUnit "kilogram" "hour" 1 = some (18 / 5) := by decide +kernel
  have hc : toUnit "kilogram" "hour" 2 = some (36 / 5) := by decide +kernel
  have := (h.1 _ _ _ _ _ _ hs hc).1.symm.trans (real_table_rates _ _ _ _ _ _ hs hc).1
  revert this
  decide +kernel

/-- exact size of known finding F10d: one mscf converts to 353147/353100 of what 1000 cubic feet
convert to (per second, hence for every increment by `Units.all_pairs_convert`'s factors) -/
theorem Units.mscf_drift :
    (do let a ← factor Generated.Units.table "mscf" "second"
        let b ← factor Generated.Units.table "cubic feet" "second"
        pure (a / (1000 * b))) = some ((353147 : Rat) / 353100) := by decide +kernel

/-! ### independent definitions of the non-SI units (tolerance-bounded table obligations) -/

/-- `|x − exact| ≤ tol · exact` -/
def relWithin (x exact tol : Rat) : Bool :=
  decide (x - exact ≤ tol * exact) && decide (exact - x ≤ tol * exact)

def perUnitOf (l : List Metric) (k : String) : Option Rat := (lookupM l k).map (·.perUnit)

/-- check of one table (in or out metrics) against the legal / SI definitions:
pound = 0.45359237 kg, foot = 0.3048 m, liter = 1/1000 m³ -/
def metricsWithin (l : List Metric) (tol : Rat) : Bool :=
  (match perUnitOf l "pound" with
    | some x => relWithin x ((1000000 : Rat) / (45359237 / 100000)) tol | none => false)
  && (match perUnitOf l "cubic feet" with
    | some x => relWithin x (1 / ((381 : Rat) / 1250) ^ 3) tol | none => false)
  && (perUnitOf l "liter" == some 1000) && (perUnitOf l "cubic meter" == some 1)

def mscfWithin (l : List Metric) (tol : Rat) : Bool :=
  match perUnitOf l "mscf" with
  | some x => relWithin x (1 / (1000 * ((381 : Rat) / 1250) ^ 3)) tol | none => false

/-- pound, cubic feet, liter, cubic meter (both tables) agree with their independent definitions
within 2·10⁻⁶ (the rounding of six tabulated digits); week = 365/7 per year within 2·10⁻⁶,
month = 12 and year = 1 exactly.  A typo in one of these entries breaks this theorem. -/
theorem Units.non_si_entries_within_tolerance :
    metricsWithin Generated.Units.table.inMetrics (2 / 1000000) = true
    ∧ metricsWithin Generated.Units.table.outMetrics (2 / 1000000) = true
    ∧ (match lookupR Generated.Units.table.increments "week" with
        | some w => relWithin w ((365 : Rat) / 7) (2 / 1000000) | none => false) = true
    ∧ lookupR Generated.Units.table.increments "month" = some 12
    ∧ lookupR Generated.Units.table.increments "year" = some 1 := by decide +kernel

/-- mscf is tabulated to four digits only: within 2·10⁻⁴ of 1/(1000 ft³) but NOT within 2·10⁻⁶
(the root of known finding F10d) -/
theorem Units.mscf_entry_coarse :
    mscfWithin Generated.Units.table.inMetrics (2 / 10000) = true
    ∧ mscfWithin Generated.Units.table.outMetrics (2 / 10000) = true
    ∧ mscfWithin Generated.Units.table.inMetrics (2 / 1000000) = false := by decide +kernel

/-- distinct seeds give distinct generator streams (the generator is modelled as an injective map
from seed to stream), hence pairwise different Bernoulli inputs for the simulations -/
theorem distinct_scenarios_partial (stream : Nat → List Bool × List Bool)
    (hinj : Function.Injective stream) (seeds : List Nat) (hn : seeds.Nodup) :
    (seeds.map stream).Nodup :=
  List.Nodup.map hinj hn

/-- equal seeds give equal scenarios: simulation numbers `a` and `b` receive the same emissions -/
theorem same_seed_same_scenario (stream : Nat → List Bool × List Bool) (seeds : List Nat)
    (dur : Nat) (multi preEnabled : Bool) (a b : Nat) (ha : a < seeds.length) (hb : b < seeds.length)
    (h : seeds[a] = seeds[b]) :
    (scenarios stream seeds dur multi preEnabled)[a]'(by simpa [scenarios] using ha)
      = (scenarios stream seeds dur multi preEnabled)[b]'(by simpa [scenarios] using hb) := by
  simp [scenarios, h]

/-- pigeonhole: once there are more simulations than values in the `randint` range, two
simulation numbers are certain to share a seed -/
theorem seeds_collide_beyond_range (lo hi : Nat) (draws : List Nat) (nSim : Nat)
    (hr : ∀ d ∈ draws, lo ≤ d ∧ d < hi) (hlen : nSim ≤ draws.length) (hbig : hi - lo < nSim) :
    ¬ (genSeeds [] draws nSim).Nodup := by
  intro hn
  have hpos : 0 < nSim := by omega
  simp only [genSeeds, List.length_nil, hpos, ↓reduceIte, List.nil_append, Nat.sub_zero] at hn
  have hs : draws.take nSim ⊆ List.range' lo (hi - lo) := fun d hd =>
    List.mem_range'_1.mpr (by have := hr d (List.mem_of_mem_take hd); omega)
  have hle := (List.subperm_of_subset hn hs).length_le
  rw [List.length_take, List.length_range'] at hle
  omega

/-- the seed procedure of the current tree does not guarantee distinct seeds (known finding F10c):
two simulations, `randint` returns 7 twice -/
theorem seeds_distinct_counterexample :
    ¬ SeedsDistinct Generated.EmisSeed.seedLow Generated.EmisSeed.seedHigh := by
  intro h
  have := h [7, 7] 2 (by decide) (by decide)
  revert this
  decide

/-! ### extending a generator folder

`initRun` takes the seed index the loops use as a parameter (`idx`); the instance for the current
source tree is `Generated.EmisSeed.seedIdx`, extracted from the two loops of `initialize_emissions`.
The theorems need `idx fresh i nSaved n = i` on the simulation numbers a run writes; for the
extracted expressions that is the table obligation `EmisSeed.seed_index_is_simulation_number`. -/

/-- every stored simulation number carries the scenario of *its own* seed -/
def FolderGood {σ : Type} (seedAt : Nat → Nat) (scen : Nat → σ) (F : Folder σ) : Prop :=
  ∀ i, i < F.nSaved → F.files i = some (scen (seedAt i))

/-- the loops seed simulation `i` with entry `i` of the seed file -/
def IndexIsSimulationNumber (idx : SeedIdx) : Prop :=
  ∀ (fresh : Bool) (i nSaved n : Nat), i ∈ writes fresh nSaved n → idx fresh i nSaved n = i

theorem mem_writes {fresh : Bool} {nSaved n i : Nat} :
    i ∈ writes fresh nSaved n ↔ (if fresh then i < n else nSaved ≤ i ∧ i < n) := by
  unfold writes
  cases fresh
  · simp only [Bool.false_eq_true, ↓reduceIte]
    split
    · rw [List.mem_range'_1]; omega
    · simp; omega
  · simp

/-- table obligation: the index expressions extracted from BOTH loops of `initialize_emissions`
denote the simulation number itself (an extension loop indexing with `i - n_simulation_saved`
breaks this theorem) -/
theorem EmisSeed.seed_index_is_simulation_number :
    IndexIsSimulationNumber Generated.EmisSeed.seedIdx := by
  intro fresh i nSaved n h
  rw [mem_writes] at h
  cases fresh
  · replace h : nSaved ≤ i ∧ i < n := h
    show Generated.EmisSeed.seedIdxExtend i nSaved n = i
    unfold Generated.EmisSeed.seedIdxExtend
    omega
  · replace h : i < n := h
    show Generated.EmisSeed.seedIdxFresh i nSaved n = i
    unfold Generated.EmisSeed.seedIdxFresh
    omega

theorem initRun_good {σ : Type} (idx : SeedIdx) (hidx : IndexIsSimulationNumber idx)
    (seedAt : Nat → Nat) (scen : Nat → σ) (fresh : Bool) (n : Nat)
    (F : Folder σ) (h : FolderGood seedAt scen F) :
    FolderGood seedAt scen (initRun idx seedAt scen fresh n F) := by
  intro i hi
  simp only [initRun] at hi ⊢
  by_cases hw : i ∈ writes fresh F.nSaved n
  · simp [hw, hidx fresh i F.nSaved n hw]
  · simp only [hw, ↓reduceIte]
    apply h
    rw [mem_writes] at hw
    cases fresh
    · simp only [Bool.false_eq_true, ↓reduceIte] at hi hw
      split at hi <;> omega
    · simp only [↓reduceIte] at hi hw
      omega

/-- seed-index property of the extension: after ANY history of fresh runs, extensions and smaller
runs on one generator folder, simulation number `i` holds the scenario generated under
`emis_preseed_val[i]` — provided the loops index the seed file with the simulation number -/
theorem extension_seed_index {σ : Type} (idx : SeedIdx) (hidx : IndexIsSimulationNumber idx)
    (seedAt : Nat → Nat) (scen : Nat → σ)
    (hist : List (Bool × Nat)) (F : Folder σ) (h : FolderGood seedAt scen F) :
    FolderGood seedAt scen (runHistory idx seedAt scen hist F) := by
  induction hist generalizing F with
  | nil => exact h
  | cons r rest ih => exact ih _ (initRun_good idx hidx seedAt scen r.1 r.2 F h)

theorem extension_seed_index_generated {σ : Type} (seedAt : Nat → Nat) (scen : Nat → σ)
    (hist : List (Bool × Nat)) :
    FolderGood seedAt scen (runHistory Generated.EmisSeed.seedIdx seedAt scen hist Folder.empty) :=
  extension_seed_index _ EmisSeed.seed_index_is_simulation_number seedAt scen hist _
    (fun i hi => by simp [Folder.empty] at hi)

/-- the model CAN be wrong: with the extension loop indexing by `i - n_simulation_saved` a fresh
run with 2 simulations extended to 4 stores under simulation 2 the scenario of seed 0 -/
theorem extension_wrong_index_counterexample :
    ¬ FolderGood (fun i => i) id
        (runHistory (fun fresh i nSaved _ => if fresh then i else i - nSaved) (fun i => i) id
          [(true, 2), (false, 4)] Folder.empty) := by
  intro h
  have := h 2 (by decide)
  revert this
  decide

/-- a non-fresh run leaves the pickles of the pre-existing simulation numbers untouched
(whatever the index expression) -/
theorem extension_preserves_existing {σ : Type} (idx : SeedIdx) (seedAt : Nat → Nat) (scen : Nat → σ)
    (n : Nat) (F : Folder σ) (i : Nat) (hi : i < F.nSaved) :
    (initRun idx seedAt scen false n F).files i = F.files i := by
  have : i ∉ writes false F.nSaved n := fun h => Nat.not_le_of_lt hi (mem_writes.mp h).1
  simp [initRun, this]

/-- the seed trace of a run under the extracted index: simulation `i` is generated under
`seedAt i`, nothing else -/
theorem seedTrace_index (seedAt : Nat → Nat) (fresh : Bool) (nSaved n : Nat) :
    ∀ p ∈ seedTrace Generated.EmisSeed.seedIdx seedAt fresh nSaved n, p.2 = seedAt p.1 := by
  intro p hp
  obtain ⟨i, hi, rfl⟩ := List.mem_map.mp hp
  simp only [EmisSeed.seed_index_is_simulation_number fresh i nSaved n hi]

/-- hence, in a folder grown by any history, simulation numbers with different seeds hold
different scenarios as soon as different seeds give different scenarios -/
theorem extension_distinct {σ : Type} (seedAt : Nat → Nat) (scen : Nat → σ)
    (hinj : Function.Injective scen) (hist : List (Bool × Nat)) (i j : Nat)
    (hi : i < (runHistory Generated.EmisSeed.seedIdx seedAt scen hist Folder.empty).nSaved)
    (hj : j < (runHistory Generated.EmisSeed.seedIdx seedAt scen hist Folder.empty).nSaved)
    (hs : seedAt i ≠ seedAt j) :
    (runHistory Generated.EmisSeed.seedIdx seedAt scen hist Folder.empty).files i
      ≠ (runHistory Generated.EmisSeed.seedIdx seedAt scen hist Folder.empty).files j := by
  have hg := extension_seed_index_generated seedAt scen hist
  rw [hg i hi, hg j hj]
  intro h
  exact hs (hinj (Option.some.inj h))

/-- the seed file is append-only: growing it keeps the seed of every existing simulation number -/
theorem genSeeds_prefix (old draws : List Nat) (nSim : Nat) :
    ∃ t, genSeeds old draws nSim = old ++ t := by
  unfold genSeeds
  split
  · exact ⟨_, rfl⟩
  · exact ⟨[], by simp⟩

/-- non-vacuity: fresh run with 2, extension to 4, smaller run, extension to 5 -/
example :
    let F := runHistory Generated.EmisSeed.seedIdx (fun i => 10 * i + 7) id
      [(true, 2), (false, 4), (false, 1), (false, 5)] Folder.empty
    F.nSaved = 5 ∧ F.files 3 = some 37 ∧ F.files 4 = some 47 ∧ F.files 5 = none
    ∧ seedTrace Generated.EmisSeed.seedIdx (fun i => 10 * i + 7) false 2 4 = [(2, 27), (3, 37)] := by
  decide +kernel

/-! ### no state survives between cases in one process (table obligation)

The models are pure functions of their arguments: a generated scenario, a converted rate or a seed
list cannot depend on what was generated, converted or loaded before.  For the code that is the
content of this obligation on the table extracted from the five modelled modules: no class-level
mutable container, no cached function, the only module-level containers are the conversion
dictionaries and no function mutates them, the only copy/pickle hook is `Source.__reduce__`, and
its argument tuple lists the attributes in exactly the order `Source._reconstruct` stores them
(pickling round trip).  The same-process history runs of the check are the dynamic counterpart. -/
theorem GenState.no_cross_case_state :
    Generated.GenState.classLevelContainers = []
    ∧ Generated.GenState.cachedFunctions = []
    ∧ Generated.GenState.moduleContainerMutations = []
    ∧ Generated.GenState.moduleLevelContainers.all (fun p => p.1 == "unit_converter") = true
    ∧ Generated.GenState.copyHooks = [("sources", "Source", "__reduce__")]
    ∧ Generated.GenState.sourceReduceAttrs = Generated.GenState.sourceReconstructAttrs
    ∧ Generated.GenState.sourceReduceAttrs ≠ [] := by decide +kernel

/-! ### every requested simulation number is run exactly once (batches of five)

The scenario files are indexed by simulation number, so "different simulation numbers receive
different scenarios" also needs the manager to RUN the numbers `0 .. n-1`, each once. -/

/-- the numbering as written: `batch_count * 5 + simulation` -/
def stdNum : SimNum := fun b _ k => b * 5 + k

theorem simNumbersFrom_cons (b c : Nat) (cs : List Nat) :
    simNumbersFrom stdNum b (c :: cs)
      = List.range' (b * 5) c ++ simNumbersFrom stdNum (b + 1) cs := by
  simp [simNumbersFrom, stdNum, List.range'_eq_map_range]

theorem simNumbersFrom_full_batches (m b : Nat) (tl : List Nat) :
    simNumbersFrom stdNum b (List.replicate m 5 ++ tl)
      = List.range' (b * 5) (m * 5) ++ simNumbersFrom stdNum (b + m) tl := by
  induction m generalizing b with
  | zero => simp
  | succ m ih =>
    rw [List.replicate_succ, List.cons_append, simNumbersFrom_cons, ih, ← List.append_assoc,
      Nat.add_mul b 1 5, List.range'_append_1, Nat.add_assoc b 1 m, Nat.add_comm 1 m,
      Nat.add_comm (1 * 5), ← Nat.add_mul]

/-- for EVERY requested count `n` the numbers run with the code's numbering are exactly
`0, 1, …, n-1`, each once, in order -/
theorem numbers_run_exactly_once (n : Nat) : simNumbers stdNum n = List.range n := by
  unfold simNumbers batchSimulations
  rw [List.range_eq_range']
  split
  · rw [simNumbersFrom_full_batches, Nat.zero_mul]
    split
    · have h := @List.range'_append_1 0 (n / 5 * 5) (n % 5)
      rw [Nat.zero_add, Nat.div_add_mod' n 5] at h
      rw [simNumbersFrom_cons, simNumbersFrom, List.append_nil, Nat.zero_add, h]
    · rw [simNumbersFrom, List.append_nil]
      congr 1
      omega
  · rw [simNumbersFrom_cons, simNumbersFrom, List.append_nil, Nat.zero_mul]

/-- table obligation: the expressions extracted from BOTH run loops of `SimulationManager` are the
standard numbering on every batch the loops see (a numbering by the size of the current batch,
`batch_count * sim_count + simulation`, breaks this theorem) -/
theorem SimNumber.numbering_is_standard :
    ∀ b c k : Nat, Generated.SimNumber.simNumberDebug b c k = b * 5 + k
      ∧ Generated.SimNumber.simNumberPool b c k = b * 5 + k := by
  intro b c k
  unfold Generated.SimNumber.simNumberDebug Generated.SimNumber.simNumberPool
  constructor <;> omega

/-- … hence both execution modes of the current tree run `0 .. n-1`, each once, for every `n` -/
theorem numbers_run_generated (n : Nat) :
    simNumbers Generated.SimNumber.simNumberDebug n = List.range n
    ∧ simNumbers Generated.SimNumber.simNumberPool n = List.range n := by
  have hd : Generated.SimNumber.simNumberDebug = stdNum := by
    funext b c k; exact (SimNumber.numbering_is_standard b c k).1
  have hp : Generated.SimNumber.simNumberPool = stdNum := by
    funext b c k; exact (SimNumber.numbering_is_standard b c k).2
  rw [hd, hp]
  exact ⟨numbers_run_exactly_once n, numbers_run_exactly_once n⟩

/-- the model can be wrong: numbering by the size of the current batch runs 2 and 3 twice and
never 5 and 6 when seven simulations are requested (batches [5, 2]) -/
theorem batch_size_numbering_counterexample :
    simNumbers (fun b c k => b * c + k) 7 = [0, 1, 2, 3, 4, 2, 3]
    ∧ simNumbers (fun b c k => b * c + k) 7 ≠ List.range 7 := by decide

/-- non-vacuity: 11 simulations are three batches -/
example : batchSimulations 11 = [5, 5, 1] ∧ batchSimulations 5 = [5] ∧ batchSimulations 0 = [0]
    ∧ simNumbers stdNum 11 = List.range 11 := by decide

/-! ### a completed run hands out only scenarios generated under its own configuration,
whatever the kill point of the runs before it -/

/-- the marker vouches for the configuration in the hashes: if `n_sim_saved.p` says `m`, the stored
hashes name a configuration and scenario files `0 .. m-1` were all generated under it -/
def MarkerSound (F : GFolder) : Prop :=
  ∀ m, F.marker = some m → ∃ h, F.hashes = some h ∧ ∀ i, i < m → F.files i = some h

theorem markerSound_of_marker_none {F : GFolder} (h : F.marker = none) : MarkerSound F :=
  fun _ hm => nomatch h.symm.trans hm

theorem MarkerSound.files {F : GFolder} {c m i : Nat} (h : MarkerSound F) (hc : F.hashes = some c)
    (hm : F.marker = some m) (hi : i < m) : F.files i = some c := by
  obtain ⟨c', hc', hf⟩ := h m hm
  cases hc.symm.trans hc'
  exact hf i hi

theorem MarkerSound.writeFiles {F : GFolder} {c : Nat} (hF : MarkerSound F) (hc : F.hashes = some c)
    (lo hi : Nat) : MarkerSound (writeFiles c lo hi F) := fun m hm => ⟨c, hc, fun i hi' => by
  simp only [Gen.writeFiles]
  split
  · rfl
  · exact hF.files hc hm hi'⟩

theorem markerSound_mark {F : GFolder} {c lo hi : Nat} (hc : F.hashes = some c)
    (hlo : ∀ i, i < lo → F.files i = some c) :
    MarkerSound { writeFiles c lo hi F with marker := some hi } := fun m hm => ⟨c, hc, fun i hi' => by
  cases hm
  simp only [Gen.writeFiles]
  split
  · rfl
  · exact hlo i (by omega)⟩

/-- `initialize_infrastructure` leaves the hashes naming `c` and the marker sound; it reports
`hash_file_exist` only with a marker present, and otherwise has removed the marker — provided the
marker is removed before new hashes are written -/
theorem infraStep_spec (r : MarkerRemoval) (hr : r.inInfra = true) (c : Nat) {F : GFolder}
    (hF : MarkerSound F) :
    (infraStep r c F).1.hashes = some c ∧ MarkerSound (infraStep r c F).1
      ∧ if (infraStep r c F).2 then (infraStep r c F).1.marker.isSome = true
        else (infraStep r c F).1.marker = none := by
  rw [infraStep, hr, if_pos rfl]
  split
  · next h => exact ⟨h.1, hF, h.2⟩
  · exact ⟨rfl, markerSound_of_marker_none rfl, rfl⟩

/-- `initialize_emissions` on such a folder, killed anywhere or not: the hashes stay, the marker
stays sound, and a call that is not killed leaves a marker of at least `n` -/
theorem emisStep_spec {r : MarkerRemoval} {c n : Nat} {b : Bool} {cut : Option Nat} {F : GFolder}
    (hc : F.hashes = some c) (hF : MarkerSound F)
    (hb : if b then F.marker.isSome = true else F.marker = none) :
    (emisStep r c n b cut F).hashes = some c ∧ MarkerSound (emisStep r c n b cut F)
      ∧ (cut = none → ∃ m, n ≤ m ∧ (emisStep r c n b cut F).marker = some m) := by
  have he : ∀ count k, effCut cut count = some k → cut ≠ none := by
    rintro _ _ h rfl; cases h
  unfold emisStep
  cases b
  · -- regeneration: no marker until all files are written
    have h1 : (if r.inEmis then { F with marker := none } else F).marker = none := by
      split
      exacts [rfl, hb]
    have h2 : (if r.inEmis then { F with marker := none } else F).hashes = some c := by
      split <;> exact hc
    simp only [Bool.not_false, ↓reduceIte]
    split
    · next k hk => exact ⟨h2, markerSound_of_marker_none h1, fun h => (he _ _ hk h).elim⟩
    · exact ⟨h2, markerSound_mark h2 fun i hi => (Nat.not_lt_zero i hi).elim,
        fun _ => ⟨n, le_rfl, rfl⟩⟩
  · -- reuse or extension: files are written from the marker upwards
    obtain ⟨m, hm⟩ := Option.isSome_iff_exists.mp hb
    simp only [Bool.not_true, Bool.false_eq_true, ↓reduceIte, hm]
    split
    · split
      · next k hk => exact ⟨hc, hF.writeFiles hc _ _, fun h => (he _ _ hk h).elim⟩
      · exact ⟨hc, markerSound_mark hc fun i hi => hF.files hc hm hi, fun _ => ⟨n, le_rfl, rfl⟩⟩
    · exact ⟨hc, hF, fun _ => ⟨m, by omega, hm⟩⟩

theorem runG_markerSound (r : MarkerRemoval) (hr : r.inInfra = true) (c n : Nat) (kill : Kill)
    (F : GFolder) (hF : MarkerSound F) : MarkerSound (runG r c n kill F) := by
  obtain ⟨hc, hs, hb⟩ := infraStep_spec r hr c hF
  cases kill with
  | afterCheck => exact hF
  | afterInfra => exact hs
  | afterFiles k => exact (emisStep_spec hc hs hb).2.1
  | complete => exact (emisStep_spec hc hs hb).2.1

theorem histG_markerSound (r : MarkerRemoval) (hr : r.inInfra = true)
    (hist : List (Nat × Nat × Kill)) (F : GFolder) (hF : MarkerSound F) :
    MarkerSound (histG r hist F) := by
  induction hist generalizing F with
  | nil => exact hF
  | cons x rest ih => exact ih _ (runG_markerSound r hr x.1 x.2.1 x.2.2 F hF)

theorem complete_run_hands_own (r : MarkerRemoval) (hr : r.inInfra = true) (c n : Nat)
    (F : GFolder) (hF : MarkerSound F) :
    ∀ i, i < n → handedOut (runG r c n .complete F) i = some c := by
  obtain ⟨hc, hs, hb⟩ := infraStep_spec r hr c hF
  obtain ⟨hc', hs', hm⟩ := emisStep_spec (r := r) (n := n) (cut := none) hc hs hb
  obtain ⟨m, hnm, hm⟩ := hm rfl
  exact fun i hi => hs'.files hc' hm (by omega)

/-- the statement asked for: whatever runs came before — each with any configuration, any number of
simulations, killed at ANY point or completed — a completed run hands out only scenarios generated
under its own configuration -/
theorem handed_out_own_configuration (r : MarkerRemoval) (hr : r.inInfra = true)
    (hist : List (Nat × Nat × Kill)) (c n : Nat) :
    ∀ i, i < n → handedOut (runG r c n .complete (histG r hist GFolder.empty)) i = some c :=
  complete_run_hands_own r hr c n _ (histG_markerSound r hr hist _ (markerSound_of_marker_none rfl))

/-- table obligation on the current source tree: the marker is removed in `initialize_infrastructure`
before new hashes are written, and written only after the last scenario file -/
theorem GenMarker.marker_removed_with_hashes :
    Generated.GenMarker.removedInInfrastructure = true
    ∧ Generated.GenMarker.markerWrittenAfterFiles = true := by decide

/-- the removal order of the current tree, as the model's parameter -/
def treeRemoval : MarkerRemoval :=
  { inInfra := Generated.GenMarker.removedInInfrastructure, inEmis := Generated.GenMarker.removedInEmissions }

theorem handed_out_own_configuration_generated (hist : List (Nat × Nat × Kill)) (c n : Nat) :
    ∀ i, i < n → handedOut (runG treeRemoval c n .complete (histG treeRemoval hist GFolder.empty)) i = some c :=
  handed_out_own_configuration treeRemoval GenMarker.marker_removed_with_hashes.1 hist c n

/-- the model can be wrong: with the removal only at the top of the regeneration branch of
`initialize_emissions`, run 1 (configuration 1) complete, run 2 (configuration 2) killed between
`setup_infrastructure` and `setup_emissions`, run 3 (configuration 2) complete: simulation 0 is handed
a scenario generated under configuration 1 -/
theorem removal_in_emissions_counterexample :
    handedOut (runG { inInfra := false, inEmis := true } 2 3 .complete
      (histG { inInfra := false, inEmis := true } [(1, 3, .complete), (2, 3, .afterInfra)] GFolder.empty)) 0
      = some 1 := by decide

/-- C16 minus the two clauses that fail today, everything about the code's OWN tables: all
generation clauses; both cap clauses; the exact form of the unit clause that does hold (rates are
`driftK i` times the capped physical rate for every population, so SI units sharing a time unit
agree exactly and per-second units are exact); folder histories keep simulation `i` on seed `i` -/
theorem C16_partial :
    GenClauses
    ∧ ((∀ (m i : String) (s cap r : Rat), sampleRate Generated.Units.table m i s cap = some r →
          ∃ c, unitConversion Generated.Units.table m i cap = some c ∧ r ≤ c)
      ∧ (∀ (m i : String) (d cap r : Rat), distRate Generated.Units.table m i d cap = some r →
          ∃ c, convertD Generated.Units.table m i cap = some c ∧ r ≤ c))
    ∧ (∀ (m i : String) (s cap xs xc : Rat), toUnit m i s = some xs → toUnit m i cap = some xc →
          sampleRate Generated.Units.table m i xs xc = some (driftK i * capAt cap s)
          ∧ distRate Generated.Units.table m i xs xc = some (driftK i * capAt cap s))
    ∧ IndexIsSimulationNumber Generated.EmisSeed.seedIdx :=
  ⟨gen_clauses, ⟨cap_respected _, cap_respected_dist _ Units.table_positive⟩, real_table_rates,
    EmisSeed.seed_index_is_simulation_number⟩

/-- the full statement is false of the code as it stands (F10b, F10c) -/
theorem C16_counterexample : ¬ C16_statement := fun h => unit_invariance_counterexample h.2.1

/-- single-emission source, duration 3, pre-period enabled: the pre-period hit on day −2 blocks
days 0 and 1 (last = −2 + 3 = 1), day 2 starts the next one, which blocks 3..5; ids 0,1,2 -/
example :
    generate [false, true, true] [true, true, true, true, false, true, true] 3 false true
      = [⟨6, 2⟩, ⟨2, 1⟩, ⟨-2, 0⟩] := by decide +kernel

/-- same draws, multi-emission source: every hit becomes an emission -/
example :
    (generate [false, true, true] [true, true, true, true, false, true, true] 3 true true).length = 8
    ∧ (generate [false, true, true] [true, false] 3 true false).map (·.start) = [0] := by
  decide +kernel

/-- a start exactly `dur` days before the period is reachable (lower bound is attained) -/
example : generate [true, false] [] 2 false true = [⟨-2, 0⟩] := by decide +kernel

/-- consistent tables exist, and `toUnit` is defined: 1 g/s is 3.6 kg/h -/
example : Consistent (withSecond Generated.Units.table (365 * 86400))
    ∧ toUnit "kilogram" "hour" 1 = some (18 / 5) := by decide +kernel

/-- the cap clause is exercised: 2 t/day sample, cap 1 t/day -/
example : ∃ r, sampleRate Generated.Units.table "tonne" "day" 2 1 = some r ∧ 0 < r :=
  ⟨_, (real_table_rates "tonne" "day" (625 / 27) (625 / 54) 2 1 (by decide +kernel)
    (by decide +kernel)).1, by decide +kernel⟩

end LdarModel.C16
