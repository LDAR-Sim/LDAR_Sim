/-
Layer 3 tie for the survey step (DESIGN.md §10.21).

`Generated/CrewSrc.lean` is the translation of `Method.survey_site` (with
`_determine_if_site_survey_can_be_completed` resolved and inlined through the translated call),
rewritten from /repo's source on every run.  The theorems say that the translated method *is*
`Crew.surveyStep` followed by `Crew.applyStep` of `Model/Crew.lean`, for every crew budget, survey time,
travel time, progress and flag combination (no bound on any quantity): `survey_site_eq` for the whole
object and the returned values, the theorems after it for the single fields the checks speak of.
-/
import LdarModel.Generated.CrewSrc
import LdarModel.Model.Crew

namespace LdarModel.CrewTie
open LdarModel.Crew LdarModel.CrewSrc

def absRep (o : Obj) : Report :=
  { surveyed := o.rep_time_surveyed, today := o.rep_time_surveyed_current_day, travel := o.rep_time_spent_to_travel, complete := o.rep_survey_complete, inProgress := o.rep_survey_in_progress }

/-- the model's inputs of one call: `workable` is what `check_weather` answered, consulted only when the
method considers weather -/
def stepOf (o : Obj) : StepOut :=
  surveyStep o.crew_day_time_remaining o.env_survey_time o.env_travel_time o.rep_time_surveyed
    (decide (o.deployment_type = Deploy.stationary)) (!o.weather || o.env_workable)

/-- the object `survey_site` leaves behind, written out from the model's step -/
def after (o : Obj) (d : Int) : Obj :=
  let s := stepOf o
  let r := applyStep (absRep o) s
  let starts := (s.branch = .complete ∨ s.branch = .partial_) ∧ o.rep_survey_in_progress = false
  { o with
    crew_day_time_remaining := s.rem
    rep_time_surveyed := r.surveyed
    rep_time_surveyed_current_day := r.today
    rep_time_spent_to_travel := r.travel
    rep_survey_complete := r.complete
    rep_survey_in_progress := r.inProgress
    rep_survey_start_date := if starts then some d else o.rep_survey_start_date
    rep_method := if starts then some o.name else o.rep_method
    rep_survey_completion_date := if s.branch = .complete then some d else o.rep_survey_completion_date
    effects := o.effects ++ if s.branch = .complete
      then ["sensor(site=site_to_survey, meth_name=self._name, survey_report=survey_report)"] else [] }

/- `if_pos` and `if_neg` let `simp (disch := omega)` decide a test from the case hypotheses whatever way it
is written -/
attribute [local simp] after absRep stepOf surveyStep applyStep effS effT if_pos if_neg

/-- **the translated `survey_site` is the model's step**: object and returned values -/
theorem survey_site_eq (o : Obj) (d : Int) :
    Method.survey_site o d = (after o d, (stepOf o).travel, (stepOf o).last, (stepOf o).visited) := by
  obtain ⟨w, dep, nm, R, P, today, trav, comp, ip, sd, cd, m, ew, S, T, eff⟩ := o
  -- `env_workable` is read only when the method considers weather
  cases w
  rotate_left
  cases ew
  · simp
  -- the flags and the model's three tests fixed, one arm of `surveyStep` and one path through the method are left
  all_goals
    by_cases hs : dep = Deploy.stationary
    · -- no survey or travel time: always completed, with `R - 0 - (0 - P)` minutes left
      cases ip <;> by_cases h3 : R + P ≤ 0 <;> simp (disch := omega) [hs, h3]
    · by_cases h1 : R ≥ S + T * 2 - P
      · cases ip <;> by_cases h3 : R - T - (S - P) ≤ T <;> simp (disch := omega) [hs, h1, h3]
      · by_cases h2 : R > 2 * T <;> cases ip <;> simp (disch := omega) [hs, h1, h2]

theorem survey_site_report (o : Obj) (d : Int) :
    absRep (Method.survey_site o d).1 = applyStep (absRep o) (stepOf o) := by
  rw [survey_site_eq]
  rfl

theorem survey_site_crew (o : Obj) (d : Int) :
    (Method.survey_site o d).1.crew_day_time_remaining = (stepOf o).rem
    ∧ (Method.survey_site o d).2 = ((stepOf o).travel, (stepOf o).last, (stepOf o).visited) := by
  rw [survey_site_eq]
  exact ⟨rfl, rfl⟩

/-- dates and method name on the report: a start date is written exactly when a survey that was not in
progress is visited with enough time to work; a completion date exactly on completion -/
theorem survey_site_dates (o : Obj) (d : Int) :
    let o' := (Method.survey_site o d).1
    let s := stepOf o
    o'.rep_survey_completion_date = (if s.branch = .complete then some d else o.rep_survey_completion_date)
    ∧ o'.rep_survey_start_date
        = (if (s.branch = .complete ∨ s.branch = .partial_) ∧ o.rep_survey_in_progress = false then some d
           else o.rep_survey_start_date)
    ∧ o'.rep_method
        = (if (s.branch = .complete ∨ s.branch = .partial_) ∧ o.rep_survey_in_progress = false then some o.name
           else o.rep_method) := by
  rw [survey_site_eq]
  exact ⟨rfl, rfl, rfl⟩

theorem survey_site_frame (o : Obj) (d : Int) :
    let o' := (Method.survey_site o d).1
    o'.weather = o.weather ∧ o'.deployment_type = o.deployment_type ∧ o'.name = o.name := by
  rw [survey_site_eq]
  exact ⟨rfl, rfl, rfl⟩

theorem all_translated : CrewSrc.untranslated = [] := by decide

/-- which class's body each method class runs: the site-level and group-level classes inherit
`Method.survey_site`; `ComponentLevelMethod` overrides it (calls it through `super()` and then tags,
modelled in `Model/Emission.lean: tagCalls / tagEvs`) -/
theorem owners_as_modelled : CrewSrc.surveySiteOwner =
    [("Method", "Method"), ("SiteLevelMethod", "Method"), ("EquipmentGroupLevelMethod", "Method"),
     ("ComponentLevelMethod", "ComponentLevelMethod")] := rfl

theorem ignored_as_documented : CrewSrc.ignored = [] := by decide

/-- **the sensor is consulted exactly once, and only by the step that completes the survey** (with the
site, the method's own name and this survey's report): no reading is taken on a day the survey is left
in progress, on a day without time, or on a day the weather forbids -/
theorem survey_site_sensor (o : Obj) (d : Int) (h : o.effects = []) :
    (Method.survey_site o d).1.effects
      = (if (stepOf o).branch = .complete
         then ["sensor(site=site_to_survey, meth_name=self._name, survey_report=survey_report)"] else []) := by
  rw [survey_site_eq]
  show o.effects ++ _ = _
  rw [h, List.nil_append]

end LdarModel.CrewTie
