import LdarModel.Lemmas.Tree
/-
C18 — parameter intake: user values override defaults, everything else stays default.

Model: `Model/Tree.lean` (`retainUpdate`, `checkTypes`, `removePlaceholders`, `validateNames`,
`installProgram`, `parse`, `intake`).  Leaf = any non-dictionary value (lists are leaves, as in
`retain_update`).  `touched u p` = the path `p` lies on or below a leaf path of the update `u`.
Every statement is over all trees / paths / key sets / file lists; hypotheses named `wf` say that
dictionary keys are distinct (always true of Python dictionaries).
-/
namespace LdarModel.Tree

/-- the property at full strength over the model:
(1) an accepted file uses, at every depth, only keys the defaults have at the same place (only a
    top-level omit key of the level is exempt);
(2) the sections produced by the intake do not depend on the order of the parameter files. -/
def C18_statement : Prop :=
  (∀ (om : List String) (d t : J) (p : Path) (tk : KV) (k : String),
      checkTypes om d t = .ok () → get? p t = some (.obj tk) → k ∈ tk.keys →
      (∀ k0, (p ++ [k]).head? = some k0 → om.contains k0 = false) →
      ∃ dk, get? p d = some (.obj dk) ∧ k ∈ dk.keys)
  ∧
  (∀ (defs sim0 : KV) (fs gs : List KV) (slot : String), fs.Perm gs →
      (parse defs sim0 fs).toOption.map (·.lookup slot)
        = (parse defs sim0 gs).toOption.map (·.lookup slot))

/-- `merge_frame`: after `retain_update(defaults, user)`
  (1) every leaf path of the user file holds the user's value,
  (2) every leaf path of the defaults that is not on or below a user leaf path holds the default,
  (3) nothing appears where neither had anything,
  (4) every dictionary of the defaults off the user's leaf paths is still a dictionary, with the
      default's key list when the user's keys are known — sections are never replaced wholesale. -/
theorem merge_frame {d r : J} {ukvs : KV} (hwf : ukvs.wf = true)
    (h : retainUpdate d (.obj ukvs) = .ok r) :
    (∀ p v, get? p (.obj ukvs) = some v → v.isObj = false → get? p r = some v) ∧
    (∀ p v, get? p d = some v → v.isObj = false → touched (.obj ukvs) p = false →
        get? p r = some v) ∧
    (∀ p, get? p d = none → touched (.obj ukvs) p = false → get? p r = none) ∧
    (∀ p dk, get? p d = some (.obj dk) → touched (.obj ukvs) p = false →
        ∃ rk, get? p r = some (.obj rk) ∧ (Known d (.obj ukvs) → rk.keys = dk.keys)) := by
  simp only [retainUpdate] at h
  refine ⟨?_, ?_, ?_, ?_⟩
  · intro p v hg hv
    rw [ru_touched p ukvs d r hwf h (touched_of_leaf_at p _ v hg hv), hg]
  · intro p v hg hv ht
    exact (ru_untouched p ukvs d r hwf h ht).2.1 v hg hv
  · intro p hg ht
    exact (ru_untouched p ukvs d r hwf h ht).1 hg
  · intro p dk hg ht
    obtain ⟨rk, hr, hkeys⟩ := (ru_untouched p ukvs d r hwf h ht).2.2 dk hg
    exact ⟨rk, hr, fun hk => hkeys (hk.keys_at hg)⟩

/-- non-vacuity: a nested update of one leaf -/
example :
    retainUpdate (.obj (.cons "a" (.int 1) (.cons "s" (.obj (.cons "x" (.int 2) (.cons "y" (.int 3) .nil))) .nil)))
        (.obj (.cons "s" (.obj (.cons "y" (.int 9) .nil)) .nil))
      = .ok (.obj (.cons "a" (.int 1) (.cons "s" (.obj (.cons "x" (.int 2) (.cons "y" (.int 9) .nil))) .nil))) := rfl

/-- a file accepted by `check_types` (no omit keys) never crashes `retain_update` -/
theorem merge_total {d : J} {ukvs : KV} (hwf : ukvs.wf = true)
    (hc : checkTypes [] d (.obj ukvs) = .ok ()) : ∃ r, retainUpdate d (.obj ukvs) = .ok r := by
  obtain ⟨dk, hd, _⟩ := ct_obj hc
  subst hd
  simp only [retainUpdate]
  exact ru_total ukvs _ hwf (Or.inr rfl) (known_of_check hc).1

/-- `merge_comm`: two updates (keys known, leaves on leaves) that agree wherever both reach — real
files of one level both carry `parameter_level` / `version`, with equal values — merged in either
order give the same tree: the merged result does not depend on the file order.  Updates with
disjoint leaf paths are the special case `agree_of_disjoint`. -/
theorem merge_comm {u1 u2 : KV} {d r1 r12 r2 r21 : J}
    (hw1 : u1.wf = true) (hw2 : u2.wf = true) (hnd : NodupAt d)
    (hk1 : Known d (.obj u1)) (hk2 : Known d (.obj u2))
    (hl1 : LeafOnLeaf d (.obj u1)) (hl2 : LeafOnLeaf d (.obj u2))
    (hdis : AgreeOnCommon (.obj u1) (.obj u2))
    (e1 : retainUpdate d (.obj u1) = .ok r1) (e12 : retainUpdate r1 (.obj u2) = .ok r12)
    (e2 : retainUpdate d (.obj u2) = .ok r2) (e21 : retainUpdate r2 (.obj u1) = .ok r21) :
    r12 = r21 := by
  simp only [retainUpdate] at e1 e12 e2 e21
  exact ru_comm hw1 hw2 hnd hk1 hk2 hl1 hl2 hdis e1 e12 e2 e21

/-- the same for two files that both pass `check_types`: both orders succeed and agree -/
theorem merge_comm_checked {u1 u2 : KV} {d : J}
    (hwd : d.wf = true) (hw1 : u1.wf = true) (hw2 : u2.wf = true)
    (hc1 : checkTypes [] d (.obj u1) = .ok ()) (hc2 : checkTypes [] d (.obj u2) = .ok ())
    (hdis : AgreeOnCommon (.obj u1) (.obj u2)) :
    ∃ r1 r2 r, retainUpdate d (.obj u1) = .ok r1 ∧ retainUpdate r1 (.obj u2) = .ok r ∧
      retainUpdate d (.obj u2) = .ok r2 ∧ retainUpdate r2 (.obj u1) = .ok r := by
  obtain ⟨hk1, hl1⟩ := known_of_check hc1
  obtain ⟨hk2, hl2⟩ := known_of_check hc2
  obtain ⟨r1, e1⟩ := merge_total hw1 hc1
  obtain ⟨r2, e2⟩ := merge_total hw2 hc2
  simp only [retainUpdate] at e1 e2
  obtain ⟨dk, hd, _⟩ := ct_obj hc1
  subst hd
  obtain ⟨rk1, hr1⟩ := ru_obj u1 dk r1 e1
  obtain ⟨rk2, hr2⟩ := ru_obj u2 dk r2 e2
  subst hr1; subst hr2
  obtain ⟨r12, e12⟩ := ru_total u2 (.obj rk1) hw2 (Or.inr rfl) (known_after hw1 e1 hk1 hl1 hk2)
  obtain ⟨r21, e21⟩ := ru_total u1 (.obj rk2) hw1 (Or.inr rfl) (known_after hw2 e2 hk2 hl2 hk1)
  have := ru_comm hw1 hw2 (wf_nodupAt hwd) hk1 hk2 hl1 hl2 hdis e1 e12 e2 e21
  subst this
  exact ⟨_, _, r12, e1, e12, e2, e21⟩

/-- non-vacuity of the hypotheses of `merge_comm_checked` -/
example : ∃ r1 r2 r,
    retainUpdate (.obj (.cons "a" (.int 1) (.cons "b" (.float 5 (-1)) .nil))) (.obj (.cons "a" (.int 7) .nil)) = .ok r1 ∧
    retainUpdate r1 (.obj (.cons "b" (.int 2) .nil)) = .ok r ∧
    retainUpdate (.obj (.cons "a" (.int 1) (.cons "b" (.float 5 (-1)) .nil))) (.obj (.cons "b" (.int 2) .nil)) = .ok r2 ∧
    retainUpdate r2 (.obj (.cons "a" (.int 7) .nil)) = .ok r :=
  merge_comm_checked (by decide) (by decide) (by decide) rfl rfl
    (agree_of_disjoint (disjoint_of_keys (by decide)))

/-- the same with the decidable hypotheses the check evaluates on every generated pair of files
(`hyp` op of `drv_tree`): well-formed, both accepted by `check_types`, `agreeB` -/
theorem merge_comm_decidable {u1 u2 : KV} {d : J}
    (hwd : d.wf = true) (hw1 : u1.wf = true) (hw2 : u2.wf = true)
    (hc1 : checkTypes [] d (.obj u1) = .ok ()) (hc2 : checkTypes [] d (.obj u2) = .ok ())
    (hag : agreeB u1 u2 = true) :
    ∃ r1 r2 r, retainUpdate d (.obj u1) = .ok r1 ∧ retainUpdate r1 (.obj u2) = .ok r ∧
      retainUpdate d (.obj u2) = .ok r2 ∧ retainUpdate r2 (.obj u1) = .ok r :=
  merge_comm_checked hwd hw1 hw2 hc1 hc2 (agreeOnCommon_of_agreeB hag)

/-- non-vacuity on files shaped like real ones: both carry `parameter_level` (and `version`) -/
example : ∃ r1 r2 r,
    retainUpdate (.obj (.cons "parameter_level" (.str "virtual_world") (.cons "version" (.str "4.0")
        (.cons "a" (.int 1) (.cons "s" (.obj (.cons "x" (.float 5 (-1)) (.cons "y" (.int 2) .nil))) .nil)))))
      (.obj (.cons "parameter_level" (.str "virtual_world") (.cons "s" (.obj (.cons "x" (.int 7) .nil)) .nil))) = .ok r1 ∧
    retainUpdate r1 (.obj (.cons "version" (.str "4.0") (.cons "parameter_level" (.str "virtual_world")
        (.cons "s" (.obj (.cons "y" (.int 9) .nil)) .nil)))) = .ok r ∧
    retainUpdate (.obj (.cons "parameter_level" (.str "virtual_world") (.cons "version" (.str "4.0")
        (.cons "a" (.int 1) (.cons "s" (.obj (.cons "x" (.float 5 (-1)) (.cons "y" (.int 2) .nil))) .nil)))))
      (.obj (.cons "version" (.str "4.0") (.cons "parameter_level" (.str "virtual_world")
        (.cons "s" (.obj (.cons "y" (.int 9) .nil)) .nil)))) = .ok r2 ∧
    retainUpdate r2 (.obj (.cons "parameter_level" (.str "virtual_world") (.cons "s" (.obj (.cons "x" (.int 7) .nil)) .nil))) = .ok r :=
  merge_comm_decidable (by decide) (by decide) (by decide) rfl rfl (by decide)

/-- `accepts → known ∧ typed`: below an omit-free key path, whatever an accepted file holds has a
counterpart in the defaults at the same path, passes the node test `typeOk` against it, and — if it
is a dictionary — uses only keys that counterpart has; list elements are checked against the first
element of the default list -/
theorem accepts_known_typed {om : List String} {d t : J} (h : checkTypes om d t = .ok ())
    (p : Path) (hp : omitFree om p) (tv : J) (hg : get? p t = some tv) :
    ∃ dv, get? p d = some dv ∧ typeOk dv tv = true ∧
      (∀ tk k, tv = .obj tk → k ∈ tk.keys → om.contains k = false →
          ∃ dk, dv = .obj dk ∧ k ∈ dk.keys) ∧
      (∀ tl d0 ds x, tv = .list tl → dv = .list (.cons d0 ds) → x ∈ tl.toList →
          checkTypes om d0 x = .ok ()) := by
  obtain ⟨dv, hdv, hc⟩ := ct_get p d t tv h hp hg
  refine ⟨dv, hdv, ct_typeOk hc, ?_, ?_⟩
  · intro tk k htv hm ho
    subst htv
    obtain ⟨dk, hd, hct⟩ := ct_obj hc
    obtain ⟨x, hx⟩ := KV.lookup_of_mem_keys k tk hm
    obtain ⟨dv2, hdv2, _⟩ := ct_lookup tk k x hct hx ho
    exact ⟨dk, hd, KV.mem_keys_of_lookup hdv2⟩
  · intro tl d0 ds x htv hdl hm
    subst htv; subst hdl
    have hl : ctList om d0 tl = .ok () := by
      simp only [checkTypes] at hc
      split at hc
      · exact hc
      · cases hc
    exact ct_list_mem tl x hl hm

/-- `checkTypes_iff`: `check_types` accepts exactly the conforming files — the converse of
`accepts_known_typed`: a file every key of which is known and every value of which is typed is
accepted.  `conforms` is the specification as a plain conjunction; its one-level reading is
`conforms_dict` / `conforms_list` below. -/
theorem checkTypes_iff (om : List String) (d t : J) :
    checkTypes om d t = .ok () ↔ conforms om d t = true :=
  ct_iff_conforms om t d

/-- a dictionary conforms iff it passes the node test and every key that is not an omit key is a
key of the default with a conforming value -/
theorem conforms_dict (om : List String) (d : J) (tk : KV) :
    conforms om d (.obj tk) = true ↔
      ∃ dk, d = .obj dk ∧ ∀ k tv, (k, tv) ∈ tk.toList → om.contains k = false →
        ∃ dv, dk.lookup k = some dv ∧ conforms om dv tv = true := by
  constructor
  · intro h
    simp only [conforms, Bool.and_eq_true] at h
    obtain ⟨dk, hd⟩ := typeOk_obj h.1
    subst hd
    exact ⟨dk, rfl, (confKvs_iff om dk tk).mp h.2⟩
  · rintro ⟨dk, rfl, h⟩
    simp only [conforms, Bool.and_eq_true]
    exact ⟨by simp [typeOk, J.tag, J.isStr], (confKvs_iff om dk tk).mpr h⟩

/-- a list conforms iff the default is a list and, when the default list is non-empty, every
element conforms to its first element (an empty default list leaves the elements unchecked) -/
theorem conforms_list (om : List String) (d : J) (tl : JL) :
    conforms om d (.list tl) = true ↔
      ∃ dl, d = .list dl ∧ ∀ d0 ds, dl = .cons d0 ds → ∀ x, x ∈ tl.toList → conforms om d0 x = true := by
  constructor
  · intro h
    simp only [conforms, Bool.and_eq_true] at h
    cases d with
    | list dl =>
      refine ⟨dl, rfl, ?_⟩
      intro d0 ds hdl x hx
      subst hdl
      exact (confList_iff om d0 tl).mp h.2 x hx
    | _ => simp [typeOk, J.tag, J.isStr] at h
  · rintro ⟨dl, rfl, h⟩
    simp only [conforms, Bool.and_eq_true]
    refine ⟨by simp [typeOk, J.tag, J.isStr], ?_⟩
    cases dl with
    | nil => rfl
    | cons d0 ds => exact (confList_iff om d0 tl).mpr (h d0 ds rfl)

/-- the node test in full: a string for a numeric placeholder must be that placeholder; otherwise
equal types, an int for a float, an int for the int placeholder, an int or float for the float
placeholder (a string for the string placeholder is the equal-types case) -/
theorem typeOk_spec (d t : J) :
    typeOk d t = true ↔
      (((d = .str phInt ∨ d = .str phFloat) ∧ t.tag = 4) ∧ t = d) ∨
      (¬ ((d = .str phInt ∨ d = .str phFloat) ∧ t.tag = 4) ∧
        (d.tag = t.tag ∨ (d.tag = 3 ∧ t.tag = 2) ∨ (d = .str phInt ∧ t.tag = 2) ∨
          (d = .str phFloat ∧ (t.tag = 2 ∨ t.tag = 3)))) := by
  cases d with
  | str a =>
    by_cases h1 : a = phInt
    · subst h1
      cases t <;> simp [typeOk, J.tag, J.isStr, phInt, phFloat, eq_comm]
    · by_cases h2 : a = phFloat
      · subst h2
        cases t <;> simp [typeOk, J.tag, J.isStr, phInt, phFloat, eq_comm]
      · unfold typeOk
        generalize t.tag = n
        simp [J.tag, J.isStr, h1, h2]
        -- a string for the string placeholder is the equal-types case
        exact fun _ h => h.symm
  | _ =>
    unfold typeOk
    generalize t.tag = n
    simp [J.tag, J.isStr]

/-- `omit_is_element_membership`: a key is exempt only when it EQUALS an omit key — the model's
`omit_keys` is a list of strings and the test is element membership, not containment in a string.
(The call sites are held to that shape by the table obligation `table:omit-keys-call-sites`: every
`omit_keys` argument is a list / tuple display of strings; a bare string would turn `i not in
omit_keys` into a substring test.) -/
theorem omit_is_element_membership (om : List String) (k : String) :
    om.contains k = true ↔ k ∈ om := by
  simp

/-- pieces of an omit key are not omit keys: `program`, `gram`, `s`, the empty key, `Programs` in a
simulation-settings file and `method`, `thod` in a program file are unknown keys and are rejected,
at the top level and nested -/
theorem omit_key_pieces_rejected :
    (["program", "gram", "s", "", "Programs", "programss"].all fun k =>
      (match checkTypes ["programs"] (.obj (.cons "n" (.int 1) .nil)) (.obj (.cons k (.int 7) .nil)) with
        | .error .unknown_key => true
        | _ => false)) = true ∧
    (["method", "thod", "me", "s", ""].all fun k =>
      (match checkTypes ["methods"]
          (.obj (.cons "economics" (.obj (.cons "price" (.float 3 0) .nil)) .nil))
          (.obj (.cons "economics" (.obj (.cons k (.int 7) .nil)) .nil)) with
        | .error .unknown_key => true
        | _ => false)) = true := by
  decide +kernel

/-- `rejects_unknown_key`: a key (not an omit key) the defaults lack at the same omit-free path
makes `check_types` reject, at any depth -/
theorem rejects_unknown_key {om : List String} {d t : J} {p : Path} {tk : KV} {k : String}
    (hp : omitFree om p) (hg : get? p t = some (.obj tk)) (hm : k ∈ tk.keys)
    (ho : om.contains k = false)
    (hunknown : ∀ dk, get? p d = some (.obj dk) → k ∉ dk.keys) :
    ∃ e, checkTypes om d t = .error e := by
  cases hc : checkTypes om d t with
  | error e => exact ⟨e, rfl⟩
  | ok u =>
    obtain ⟨dv, hdv, _, hkn, _⟩ := accepts_known_typed hc p hp _ hg
    obtain ⟨dk, hd, hmem⟩ := hkn tk k rfl hm ho
    subst hd
    exact absurd hmem (hunknown dk hdv)

/-- `rejects_wrong_type`: a value that fails the node test against the default at the same
omit-free path (or has no default there) makes `check_types` reject, at any depth -/
theorem rejects_wrong_type {om : List String} {d t : J} {p : Path} {tv : J}
    (hp : omitFree om p) (hg : get? p t = some tv)
    (hwrong : ∀ dv, get? p d = some dv → typeOk dv tv = false) :
    ∃ e, checkTypes om d t = .error e := by
  cases hc : checkTypes om d t with
  | error e => exact ⟨e, rfl⟩
  | ok u =>
    obtain ⟨dv, hdv, hty, _, _⟩ := accepts_known_typed hc p hp _ hg
    rw [hwrong dv hdv] at hty
    cases hty

/-- the node test is the code's relation: equal types, int for float, typed placeholders -/
theorem typeOk_table :
    typeOk (.int 1) (.bool true) = false ∧ typeOk (.bool true) (.int 1) = false ∧
    typeOk (.float 1 0) (.int 3) = true ∧ typeOk (.int 1) (.float 3 0) = false ∧
    typeOk (.str phInt) (.int 3) = true ∧ typeOk (.str phInt) (.float 3 0) = false ∧
    typeOk (.str phInt) (.str "x") = false ∧ typeOk (.str phInt) (.str phInt) = true ∧
    typeOk (.str phFloat) (.int 3) = true ∧ typeOk (.str phFloat) (.float 3 0) = true ∧
    typeOk (.str phFloat) (.str "x") = false ∧ typeOk (.str phStr) (.str "x") = true ∧
    typeOk (.str phStr) (.int 1) = false ∧ typeOk (.str "a") (.null) = false ∧
    typeOk (.list .nil) (.obj .nil) = false ∧ typeOk (.obj .nil) (.list .nil) = false := by
  decide +kernel

/-- `C18_partial`: clause (1) of the statement with the code's actual exemption — no key of the
path (and not the key itself) is an omit key -/
theorem C18_partial (om : List String) (d t : J) (p : Path) (tk : KV) (k : String)
    (h : checkTypes om d t = .ok ()) (hg : get? p t = some (.obj tk)) (hm : k ∈ tk.keys)
    (hp : omitFree om (p ++ [k])) :
    ∃ dk, get? p d = some (.obj dk) ∧ k ∈ dk.keys := by
  have hp' : omitFree om p := fun k' hk' => hp k' (by simp [hk'])
  obtain ⟨dv, hdv, _, hkn, _⟩ := accepts_known_typed h p hp' _ hg
  obtain ⟨dk, hd, hmem⟩ := hkn tk k rfl hm (hp k (by simp))
  subst hd
  exact ⟨dk, hdv, hmem⟩

/-- omit keys are exempt at every depth: `economics: {methods: 3}` in a program file is accepted
although `economics` has no key `methods` (finding F18a) -/
theorem C18_counterexample_omit :
    ¬ (∀ (om : List String) (d t : J) (p : Path) (tk : KV) (k : String),
      checkTypes om d t = .ok () → get? p t = some (.obj tk) → k ∈ tk.keys →
      (∀ k0, (p ++ [k]).head? = some k0 → om.contains k0 = false) →
      ∃ dk, get? p d = some (.obj dk) ∧ k ∈ dk.keys) := by
  intro h
  have := h ["methods"]
    (.obj (.cons "economics" (.obj (.cons "price" (.float 3 0) .nil)) .nil))
    (.obj (.cons "economics" (.obj (.cons "methods" (.int 3) .nil)) .nil))
    ["economics"] (.cons "methods" (.int 3) .nil) "methods" rfl rfl (by simp [KV.keys])
    (by intro k0 hk0; simp at hk0; subst hk0; decide)
  obtain ⟨dk, hd, hm⟩ := this
  cases hd
  simp [KV.keys] at hm

private def cxDefs : KV :=
  .cons "virtual_world_default.yml"
      (.obj (.cons "parameter_level" (.str "virtual_world") (.cons "a" (.int 1) (.cons "b" (.int 2) .nil))))
  (.cons "p_default.yml"
      (.obj (.cons "parameter_level" (.str "programs") (.cons "program_name" (.str "d")
        (.cons "method_labels" (.list .nil) .nil))))
  (.cons "outputs_default.yml" (.obj (.cons "parameter_level" (.str "outputs") .nil)) .nil))

private def cxA : KV := .cons "parameter_level" (.str "virtual_world") (.cons "a" (.int 5) .nil)
private def cxB : KV := .cons "parameter_level" (.str "virtual_world") (.cons "b" (.int 7) .nil)
private def cxP : KV := .cons "parameter_level" (.str "programs") (.cons "program_name" (.str "P") .nil)

/-- two virtual-world files: the later one replaces the section built from the earlier one, so
the result depends on the file order (finding F18b) -/
theorem C18_counterexample_order :
    ¬ (∀ (defs sim0 : KV) (fs gs : List KV) (slot : String), fs.Perm gs →
      (parse defs sim0 fs).toOption.map (·.lookup slot)
        = (parse defs sim0 gs).toOption.map (·.lookup slot)) := by
  intro h
  have := h cxDefs .nil [cxA, cxB, cxP] [cxB, cxA, cxP] "virtual_world" (List.Perm.swap _ _ _)
  -- the section keeps the default `a = 1` in one order and has the user's `a = 5` in the other
  have := congrArg (fun o => o.map (·.map fun v => (get? ["a"] v).map (J.beq (.int 1)))) this
  revert this
  decide +kernel

theorem C18_counterexample : ¬ C18_statement := fun h => C18_counterexample_omit h.1

/-- `methods_installed`: when a program is installed, every label of its `method_labels` is present
under `methods`, holding `retainUpdate (defaults of the method's own deployment type) userMethod`,
the user method having passed `check_types` against those defaults -/
theorem methods_installed {defs pool pk : KV} {r : J} {ls : JL}
    (h : installProgram defs pool (.obj pk) = .ok r)
    (hl : pk.lookup "method_labels" = some (.list ls)) :
    ∃ ms, get? ["methods"] r = some (.obj ms) ∧
      ∀ l, l ∈ ls.toList → ∃ key m mk df d rm,
        keyOf l = some key ∧ pool.lookup key = some m ∧ m = .obj mk ∧
        methodDefFile mk = .ok df ∧ loadDef defs df = .ok d ∧
        checkTypes methodOmit d m = .ok () ∧ retainUpdate d m = .ok rm ∧
        ms.lookup key = some rm := by
  simp only [installProgram, hl, iterLabels] at h
  cases hil : installLabels pool ls.toList .nil with
  | error e => simp [hil] at h
  | ok ms0 =>
    simp only [hil] at h
    cases him : installMethods defs ms0 with
    | error e => simp [him] at h
    | ok ms =>
      simp only [him] at h
      cases h
      refine ⟨ms, by simp [get?, KV.lookup_setKey_same], ?_⟩
      intro l hmem
      obtain ⟨i1, _, i3⟩ := installLabels_inv pool ls.toList .nil ms0 hil
        (by intro key m hk; simp [KV.lookup] at hk)
      obtain ⟨key, hko, hkm⟩ := i3 l hmem
      obtain ⟨m, hm⟩ := KV.lookup_of_mem_keys key ms0 hkm
      obtain ⟨rm, hrm, hlk⟩ := installMethods_lookup defs ms0 ms key m him hm
      obtain ⟨mk, df, d, rfl, hdf, hld, hct, hru⟩ := installMethod_inv hrm
      exact ⟨key, _, mk, df, d, rm, hko, i1 key _ hm, rfl, hdf, hld, hct, hru, hlk⟩

/-- the defaults file of a method is chosen by its own deployment type (or its own
`default_parameters` key), never by another file -/
theorem method_defaults_by_deployment_type (mk : KV)
    (hno : mk.lookup "default_parameters" = none) :
    (mk.lookup "deployment_type" = some (.str "mobile") →
        methodDefFile mk = .ok (.str mobileDefFile)) ∧
    (mk.lookup "deployment_type" = some (.str "stationary") →
        methodDefFile mk = .ok (.str stationaryDefFile)) ∧
    (∀ dt, mk.lookup "deployment_type" = some dt → dt.isStr "mobile" = false →
        dt.isStr "stationary" = false → methodDefFile mk = .error .exit) := by
  refine ⟨?_, ?_, ?_⟩
  · intro h; simp [methodDefFile, hno, h, J.isStr]
  · intro h; simp [methodDefFile, hno, h, J.isStr]
  · intro dt h h1 h2; simp [methodDefFile, hno, h, h1, h2]

/-- a label without a method file makes the installation of the program stop with
`missing_method` -/
theorem missing_method_rejected {defs pool pk : KV} {ls : JL}
    (hl : pk.lookup "method_labels" = some (.list ls))
    (hmiss : ∃ l, l ∈ ls.toList ∧ ∀ key, keyOf l = some key → pool.lookup key = none) :
    installProgram defs pool (.obj pk) = .error .missing_method := by
  simp [installProgram, hl, iterLabels, installLabels_missing pool ls.toList .nil hmiss]

/-- labels are resolved by EQUALITY of names: a label that differs from the only supplied method by
case, a blank or unicode form is a missing method; with two methods `OGI` and `ogi` each label gets
exactly its own file, whatever the order in which the pool was filled -/
theorem near_name_labels_exact :
    (["ogi", "Ogi", "OGI ", " OGI", "ＯGI"].all fun l =>
      (match installLabels (.cons "OGI" (.obj (.cons "method_name" (.str "OGI") .nil)) .nil) [.str l] .nil with
        | .error .missing_method => true
        | _ => false)) = true ∧
    (match installLabels (.cons "OGI" (.int 1) (.cons "ogi" (.int 2) .nil)) [.str "OGI"] .nil,
           installLabels (.cons "ogi" (.int 2) (.cons "OGI" (.int 1) .nil)) [.str "OGI"] .nil with
      | .ok a, .ok b => J.beq (.obj a) (.obj (.cons "OGI" (.int 1) .nil)) && J.beq (.obj b) (.obj (.cons "OGI" (.int 1) .nil))
      | _, _ => false) = true := by
  decide +kernel

/-- `no_placeholder_left`: whatever the intake returns holds no type placeholder, at any depth -/
theorem no_placeholder_left {defs : KV} {files : List KV} {r : J}
    (h : intake defs files = .ok r) : noPh r = true := by
  obtain ⟨_, _, sim, _, _, _, rfl, _⟩ := intake_inv h
  simpa [noPh] using rpKvs_noPh sim

/-- placeholder removal touches nothing else: a value without placeholders is returned as it is -/
theorem placeholders_only (kvs : KV) (h : noPhK kvs = true) :
    removePlaceholders (.obj kvs) = .obj kvs := by
  simp [removePlaceholders, rpKvs_id kvs h]

/-- `reserved_names_rejected`: in whatever the intake returns no program name and no method label
is one of none / null / nan (in any letter case) -/
theorem reserved_names_rejected {defs : KV} {files : List KV} {r : J}
    (h : intake defs files = .ok r) :
    ∃ sim progs, r = .obj sim ∧ sim.lookup "programs" = some (.obj progs) ∧
      ∀ name prog, progs.lookup name = some prog →
        isReserved name = false ∧
        ∃ pk v ls, prog = .obj pk ∧ pk.lookup "method_labels" = some v ∧
          iterLabels v = .ok ls ∧ ∀ s, J.str s ∈ ls → isReserved s = false := by
  obtain ⟨_, _, sim, _, _, _, rfl, hv⟩ := intake_inv h
  simp only [validateNames] at hv
  split at hv
  · rename_i progs hp
    exact ⟨rpKvs sim, progs, rfl, hp, fun name prog hl => namesOk_lookup progs name prog hv hl⟩
  · cases hv
  · cases hv

private def exDefs : KV :=
  .cons "simulation_settings_default.yml"
      (.obj (.cons "parameter_level" (.str "simulation_settings") (.cons "version" (.str "4.0") (.cons "n" (.int 2) .nil))))
  (.cons "m_default_mobile.yml"
      (.obj (.cons "parameter_level" (.str "methods") (.cons "version" (.str "4.0")
        (.cons "method_name" (.str phStr) (.cons "deployment_type" (.str "mobile")
        (.cons "t" (.str phInt) (.cons "years" (.list (.cons (.str phInt) .nil)) .nil)))))))
  (.cons "virtual_world_default.yml"
      (.obj (.cons "parameter_level" (.str "virtual_world") (.cons "version" (.str "4.0")
        (.cons "a" (.int 1) (.cons "b" (.int 2) .nil)))))
  (.cons "p_default.yml"
      (.obj (.cons "parameter_level" (.str "programs") (.cons "version" (.str "4.0")
        (.cons "program_name" (.str "d") (.cons "method_labels" (.list .nil) .nil)))))
  (.cons "outputs_default.yml"
      (.obj (.cons "parameter_level" (.str "outputs") (.cons "version" (.str "4.0") .nil))) .nil))))

private def exM : KV :=
  .cons "parameter_level" (.str "methods") (.cons "method_name" (.str "M")
    (.cons "deployment_type" (.str "mobile") .nil))
private def exP : KV :=
  .cons "parameter_level" (.str "programs") (.cons "program_name" (.str "P")
    (.cons "method_labels" (.list (.cons (.str "M") .nil)) .nil))
private def exV : KV := .cons "parameter_level" (.str "virtual_world") (.cons "a" (.int 5) .nil)

/-- non-vacuity of `methods_installed`, `no_placeholder_left`, `reserved_names_rejected`: a small
complete intake that is accepted (method installed on the mobile defaults, placeholders gone) -/
example : intake exDefs [exP, exM, exV] = .ok
    (.obj (.cons "parameter_level" (.str "simulation_settings")
     (.cons "version" (.str "4.0")
     (.cons "n" (.int 2)
     (.cons "virtual_world" (.obj (.cons "parameter_level" (.str "virtual_world")
     (.cons "version" (.str "4.0")
     (.cons "a" (.int 5)
     (.cons "b" (.int 2)
     .nil)))))
     (.cons "outputs" (.obj (.cons "parameter_level" (.str "outputs")
     (.cons "version" (.str "4.0")
     .nil)))
     (.cons "programs" (.obj (.cons "P" (.obj (.cons "parameter_level" (.str "programs")
     (.cons "version" (.str "4.0")
     (.cons "program_name" (.str "P")
     (.cons "method_labels" (.list (.cons (.str "M") .nil))
     (.cons "methods" (.obj (.cons "M" (.obj (.cons "parameter_level" (.str "methods")
     (.cons "version" (.str "4.0")
     (.cons "method_name" (.str "M")
     (.cons "deployment_type" (.str "mobile")
     (.cons "t" .null
     (.cons "years" (.list .nil)
     .nil)))))))
     .nil))
     .nil))))))
     .nil))
     .nil))))))) :=
  eq_ok_of_beq (by decide +kernel)

/-- the version gate is order dependent (finding F18c): after a file with a minor-mismatch version
the gate is switched off, so a newer-version file is refused when it comes first and let through
when it comes second -/
theorem version_gate_order_counterexample :
    (∃ fs, versionGate false
        [.cons "version" (.str "4.1") .nil, .cons "version" (.str "5.0") .nil] = .ok fs) ∧
    (match versionGate false
        [.cons "version" (.str "5.0") .nil, .cons "version" (.str "4.1") .nil] with
      | .error .exit => true
      | _ => false) = true := by
  constructor
  · exact ⟨_, rfl⟩
  · decide +kernel

/-- a program named like a type placeholder is accepted and the placeholder stays in the returned
parameters as a dictionary key (finding F18d): `no_placeholder_left` is about values only -/
theorem placeholder_key_counterexample :
    (match intake exDefs [.cons "parameter_level" (.str "programs")
                            (.cons "program_name" (.str phStr) .nil)] with
      | .ok (.obj sim) =>
        (match sim.lookup "programs" with
          | some (.obj ps) => ps.has phStr
          | _ => false)
      | _ => false) = true := by
  decide +kernel

theorem reserved_table :
    isReserved "none" = true ∧ isReserved "None" = true ∧ isReserved "NULL" = true ∧
    isReserved "NaN" = true ∧ isReserved "nan" = true ∧ isReserved "P_none" = false ∧
    isReserved "nul" = false ∧ isReserved "" = false := by
  decide +kernel

/-- wiring of the virtual-world / outputs branches: the installed section is
`retainUpdate defaults file`, the file having passed `check_types` with no omit keys -/
theorem section_checked_and_merged {defs : KV} {defFile slot : String} {st st' : St} {file : KV}
    (h : routeSection defs defFile slot st file = .ok st') :
    ∃ d r, loadDef defs (match file.lookup "default_parameters" with
                          | some v => v
                          | none => .str defFile) = .ok d ∧
      checkTypes [] d (.obj file) = .ok () ∧ retainUpdate d (.obj file) = .ok r ∧
      st'.sim = st.sim.setKey slot r ∧ st'.programs = st.programs ∧ st'.pool = st.pool := by
  simp only [routeSection] at h
  split at h
  · cases h
  next d hd =>
    split at h
    · cases h
    next hc =>
      split at h
      · cases h
      next r hr => cases h; exact ⟨d, r, hd, hc, hr, rfl, rfl, rfl⟩


/-- wiring of the simulation-settings branch: the file is key- and type-checked against the
simulation settings accumulated so far (without the installed `virtual_world` / `outputs`
sections; only the top-level `programs` key is exempt) and merged into them -/
theorem sim_settings_checked_and_merged {defs : KV} {st st' : St} {file : KV}
    (hl : file.lookup "parameter_level" = some (.str "simulation_settings"))
    (h : route defs st file = .ok st') :
    checkTypes ["programs"] (.obj ((st.sim.erase "virtual_world").erase "outputs")) (.obj file) = .ok () ∧
    retainUpdate (.obj st.sim) (.obj file) = .ok (.obj st'.sim) ∧
    st'.programs = st.programs ∧ st'.pool = st.pool := by
  rw [(route_dispatch defs st file).1 hl] at h
  exact routeSim_inv h

/-- wiring of the programs branch: the file is checked against the program defaults (only the
top-level `methods` key exempt), merged onto them, and installed under its own `program_name` -/
theorem program_checked_and_merged {defs : KV} {st st' : St} {file : KV}
    (hl : file.lookup "parameter_level" = some (.str "programs"))
    (h : route defs st file = .ok st') :
    ∃ d p nm key,
      loadDef defs (match file.lookup "default_parameters" with
                    | some v => v
                    | none => .str progDefFile) = .ok d ∧
      checkTypes ["methods"] d (.obj file) = .ok () ∧ retainUpdate d (.obj file) = .ok (.obj p) ∧
      p.lookup "program_name" = some nm ∧ keyOf nm = some key ∧
      st'.programs = st.programs.setKey key (.obj p) ∧ st'.sim = st.sim ∧ st'.pool = st.pool := by
  rw [(route_dispatch defs st file).2.2.1 hl] at h
  exact routeProgram_inv h

/-- every accepted file passed `check_types` against the defaults of its level (a method file is
checked when a program installs it: `methods_installed`) -/
theorem routed_file_checked {defs : KV} {st st' : St} {file : KV}
    (h : route defs st file = .ok st') :
    (file.lookup "parameter_level" = some (.str "simulation_settings") ∧
        ∃ ref, checkTypes ["programs"] (.obj ref) (.obj file) = .ok ()) ∨
    ((file.lookup "parameter_level" = some (.str "virtual_world") ∨
      file.lookup "parameter_level" = some (.str "outputs")) ∧
        ∃ d, checkTypes [] d (.obj file) = .ok ()) ∨
    (file.lookup "parameter_level" = some (.str "programs") ∧
        ∃ d, checkTypes ["methods"] d (.obj file) = .ok ()) ∨
    (file.lookup "parameter_level" = some (.str "methods") ∧
        ∃ key, st'.pool.lookup key = some (.obj file)) := by
  obtain ⟨s, hl, hs⟩ := route_level h
  rcases hs with rfl | rfl | rfl | rfl | rfl
  · exact Or.inl ⟨hl, _, (sim_settings_checked_and_merged hl h).1⟩
  · rw [(route_dispatch defs st file).2.1 hl] at h
    obtain ⟨d, r, _, hc, _⟩ := section_checked_and_merged h
    exact Or.inr (Or.inl ⟨Or.inl hl, d, hc⟩)
  · obtain ⟨d, p, nm, key, _, hc, _⟩ := program_checked_and_merged hl h
    exact Or.inr (Or.inr (Or.inl ⟨hl, d, hc⟩))
  · rw [(route_dispatch defs st file).2.2.2.1 hl] at h
    obtain ⟨nm, key, _, _, hp, _, _⟩ := routeMethod_inv h
    exact Or.inr (Or.inr (Or.inr ⟨hl, key, by rw [hp, KV.lookup_setKey_same]⟩))
  · rw [(route_dispatch defs st file).2.2.2.2 hl] at h
    obtain ⟨d, r, _, hc, _⟩ := section_checked_and_merged h
    exact Or.inr (Or.inl ⟨Or.inr hl, d, hc⟩)

/-- `intake_ok_inv`: what an accepted intake went through — the version gate, the routing of every
file (each one accepted by its branch, hence checked: `routed_file_checked`), the installation of
every program (hence of every method: `methods_installed`), placeholder removal and name validation;
and the returned tree is exactly the placeholder-free image of the parsed one -/
theorem intake_ok_inv {defs : KV} {files : List KV} {r : J} (h : intake defs files = .ok r) :
    ∃ sim0 fs st ps,
      defs.lookup simDefFile = some (.obj sim0) ∧ versionGate false files = .ok fs ∧
      routeAll defs { sim := sim0, programs := .nil, pool := .nil }
        (if hasOutputsFile fs then fs
         else fs ++ [KV.cons "parameter_level" (.str "outputs") .nil]) = .ok st ∧
      (∀ f, f ∈ (if hasOutputsFile fs then fs
                 else fs ++ [KV.cons "parameter_level" (.str "outputs") .nil]) →
        ∃ s1 s2, route defs s1 f = .ok s2) ∧
      installPrograms defs st.pool st.programs = .ok ps ∧
      (∀ name prog, st.programs.lookup name = some prog →
        ∃ pr, installProgram defs st.pool prog = .ok pr ∧ ps.lookup name = some pr) ∧
      r = rpVal (.obj (st.sim.setKey "programs" (.obj ps))) ∧
      validateNames (rpKvs (st.sim.setKey "programs" (.obj ps))) = .ok () := by
  obtain ⟨sim0, fs, sim, hs, hv, hp, rfl, hn⟩ := intake_inv h
  obtain ⟨st, ps, hr, hi, rfl⟩ := parse_inv hp
  exact ⟨sim0, fs, st, ps, hs, hv, hr, routeAll_each defs _ _ st hr, hi,
    fun name prog hl => installPrograms_lookup defs st.pool _ ps name prog hi hl, by simp [rpVal], hn⟩

/-- `intake_frame`: at every key path the returned parameters hold the placeholder-free image of
what the merged (parsed) parameters hold there — together with `merge_frame` for the merged
sections this is the frame clause for what the caller receives -/
theorem intake_frame (merged : J) (p : Path) :
    get? p (rpVal merged) = (get? p merged).map rpVal :=
  get?_rpVal p merged


/-- `writes_swap`: two files that each write one slot (value independent of what came before —
true of every virtual_world / outputs / programs / methods file by `route_uniform`) can be given in
either order when they write different slots (different sections, different program names,
different method names): both orders are accepted and the resulting states hold the same
dictionaries up to key order -/
theorem writes_swap {defs : KV} {f g : KV} {wf wg : Write}
    (hf : ∀ st, route defs st f = .ok (applyW wf st))
    (hg : ∀ st, route defs st g = .ok (applyW wg st))
    (ht : wf.target ≠ wg.target) (st : St) :
    ∃ s1 s12 s2 s21, route defs st f = .ok s1 ∧ route defs s1 g = .ok s12 ∧
      route defs st g = .ok s2 ∧ route defs s2 f = .ok s21 ∧ St.equiv s12 s21 :=
  ⟨_, _, _, _, hf st, hg _, hg st, hf _, applyW_comm wf wg st ht⟩

/-- `files_of_different_levels_swap`: the positive order theorem under the check's assumption —
two accepted files of different levels among virtual_world / outputs / programs / methods can be
swapped anywhere in the list (with `writes_swap` also two program files with different names and two
method files with different names).  Simulation-settings files accumulate and are covered by
`merge_comm`; two files of one single-instance level are the recorded finding F18b. -/
theorem files_of_different_levels_swap {defs : KV} {f g : KV} {sf sg : String} {st0 st1 a b : St}
    (hlf : f.lookup "parameter_level" = some (.str sf))
    (hlg : g.lookup "parameter_level" = some (.str sg))
    (hsf : sf = "virtual_world" ∨ sf = "outputs" ∨ sf = "programs" ∨ sf = "methods")
    (hsg : sg = "virtual_world" ∨ sg = "outputs" ∨ sg = "programs" ∨ sg = "methods")
    (hne : sf ≠ sg) (hf : route defs st0 f = .ok a) (hg : route defs st1 g = .ok b) (st : St) :
    ∃ s1 s12 s2 s21, route defs st f = .ok s1 ∧ route defs s1 g = .ok s12 ∧
      route defs st g = .ok s2 ∧ route defs s2 f = .ok s21 ∧ St.equiv s12 s21 := by
  rcases route_uniform defs f sf hlf hsf with ⟨e, he⟩ | ⟨wf, hwf, f1, f2⟩
  · rw [he st0] at hf; cases hf
  rcases route_uniform defs g sg hlg hsg with ⟨e, he⟩ | ⟨wg, hwg, g1, g2⟩
  · rw [he st1] at hg; cases hg
  apply writes_swap hwf hwg _ st
  intro heq
  have e1 : kindOf sf = kindOf sg := by rw [← f1, ← g1, heq]
  have e2 : kindOf sf = "section" → sf = sg := by
    intro hk
    rw [← f2 hk, ← g2 (by rw [← e1]; exact hk), heq]
  rcases hsf with rfl | rfl | rfl | rfl
  -- a section file: equal targets would mean the same section
  · exact hne (e2 (by decide))
  · exact hne (e2 (by decide))
  -- a programs / methods file: only a file of the same level writes the same kind of slot
  · rcases hsg with rfl | rfl | rfl | rfl
    · exact absurd e1 (by decide)
    · exact absurd e1 (by decide)
    · exact hne rfl
    · exact absurd e1 (by decide)
  · rcases hsg with rfl | rfl | rfl | rfl
    · exact absurd e1 (by decide)
    · exact absurd e1 (by decide)
    · exact absurd e1 (by decide)
    · exact hne rfl

end LdarModel.Tree
