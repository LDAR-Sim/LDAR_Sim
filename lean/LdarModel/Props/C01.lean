import LdarModel.Model.Heap
import LdarModel.Generated.Wiring
/-
C01 — every program of a simulation set faces the identical emission scenario.

Part 1 (cursor loop): who is handed which emission, on which day (`activateSrc_spec`, `runSrc_spec`,
`activate_complete`, `activation_day`).
Part 2 (objects): emission objects are mutable and live in the infrastructure; programs have
ARBITRARY behaviours (`Beh`, ∀-quantified); `copied` runs each program on `deepcopy` of the object,
`shared` in place (`C01_objects`, `C01_objects_any_two`, `C01_needs_copy`).
At both levels one statement says what every program of a copied schedule faces (`runSchedule_copied`,
`runScheduleO_copied`); the C01 theorems are its corollaries.
Part 3 (tables): obligations over `Generated/Wiring.lean`, extracted from the source on every run.
-/
namespace LdarModel.Heap

def le (day : Int) (e : EmId) : Bool := decide (e.start ≤ day)

theorem drain_spec (day : Int) (f : EmId) (pend acc : List EmId) :
    (drain day (some f) pend acc).1 = acc.reverse ++ (f :: pend).takeWhile (le day) ∧
    ((match (drain day (some f) pend acc).2.1 with | none => [] | some g => [g]) ++
        (drain day (some f) pend acc).2.2) = (f :: pend).dropWhile (le day) := by
  induction pend generalizing f acc with
  | nil =>
    unfold drain
    by_cases h : f.start ≤ day <;> simp [h, le]
  | cons g rest ih =>
    unfold drain
    by_cases h : f.start ≤ day
    · simp only [h, if_true]
      have := ih g (f :: acc)
      constructor
      · rw [this.1]; simp [le, h]
      · rw [this.2]; simp [le, h]
    · simp [h, le]

/-- one call of `Source.activate_emissions`: it activates exactly the longest prefix (in pop order)
of emissions that have started, and keeps the rest — nothing is skipped, nothing duplicated -/
theorem activateSrc_spec (day : Int) (s : Src) :
    (activateSrc day s).1 = s.all.takeWhile (le day) ∧
    (activateSrc day s).2.all = s.all.dropWhile (le day) := by
  unfold activateSrc Src.all
  cases hn : s.next with
  | none =>
    cases hp : s.pending with
    | nil => simp [drain]
    | cons g rest =>
      have := drain_spec day g rest []
      simp only [List.reverse_nil, List.nil_append] at this
      simp only [List.nil_append]
      exact this
  | some f =>
    have := drain_spec day f s.pending []
    simp only [List.reverse_nil, List.nil_append] at this
    simp only [List.singleton_append]
    exact this

theorem takeWhile_chain (l : List EmId) (d1 d2 : Int) (h : d1 ≤ d2) :
    l.takeWhile (le d1) ++ (l.dropWhile (le d1)).takeWhile (le d2) = l.takeWhile (le d2) ∧
    (l.dropWhile (le d1)).dropWhile (le d2) = l.dropWhile (le d2) := by
  induction l with
  | nil => exact ⟨rfl, rfl⟩
  | cons x xs ih =>
    by_cases h1 : le d1 x = true
    · have h2 : le d2 x = true := decide_eq_true (Int.le_trans (of_decide_eq_true h1) h)
      rw [List.takeWhile_cons_of_pos h1, List.dropWhile_cons_of_pos h1, List.takeWhile_cons_of_pos h2,
        List.dropWhile_cons_of_pos h2, List.cons_append, ih.1]
      exact ⟨rfl, ih.2⟩
    · rw [List.takeWhile_cons_of_neg h1, List.dropWhile_cons_of_neg h1]
      exact ⟨rfl, rfl⟩

/-- `k ≥ 1` days starting at `day`: the source hands out exactly the longest started prefix as of
the last of those days -/
theorem runSrc_spec (k : Nat) (day : Int) (s : Src) :
    (runSrc (k + 1) day s).1 = s.all.takeWhile (le (day + k)) ∧
    (runSrc (k + 1) day s).2.all = s.all.dropWhile (le (day + k)) := by
  induction k generalizing day s with
  | zero => simpa [runSrc] using activateSrc_spec day s
  | succ k ih =>
    obtain ⟨h1, h1'⟩ := activateSrc_spec day s
    obtain ⟨h2, h2'⟩ := ih (day + 1) (activateSrc day s).2
    rw [runSrc, show day + ((k + 1 : Nat) : Int) = day + 1 + k by omega, h2, h2', h1, h1']
    exact takeWhile_chain s.all day (day + 1 + k) (by omega)

theorem sorted_tail (x : EmId) (xs : List EmId) (h : sortedByStart (x :: xs) = true) :
    sortedByStart xs = true := by
  cases xs with
  | nil => rfl
  | cons y ys => simp [sortedByStart] at h; exact h.2

theorem sorted_head_le (x : EmId) (xs : List EmId) (h : sortedByStart (x :: xs) = true) :
    ∀ y ∈ xs, x.start ≤ y.start := by
  induction xs generalizing x with
  | nil => intro y hy; cases hy
  | cons z zs ih =>
    simp only [sortedByStart, Bool.and_eq_true, decide_eq_true_eq] at h
    intro y hy
    rcases List.mem_cons.1 hy with rfl | hy
    · exact h.1
    · exact Int.le_trans h.1 (ih z h.2 y hy)

theorem sorted_takeWhile_eq_filter (l : List EmId) (d : Int) (h : sortedByStart l = true) :
    l.takeWhile (le d) = l.filter (le d) := by
  induction l with
  | nil => rfl
  | cons x xs ih =>
    by_cases hx : x.start ≤ d
    · simpa [le, hx] using ih (sorted_tail x xs h)
    · -- everything after x starts even later
      have : xs.filter (le d) = [] := List.filter_eq_nil_iff.2 fun y hy => by
        have := sorted_head_le x xs h y hy
        simp only [le, decide_eq_true_eq]; omega
      simp [le, hx, this]

/-- the day-major loop of the simulator equals the per-source loops (sources do not interact) -/
theorem runProgram_eq (k : Nat) (day : Int) (st : Store) :
    runProgram k day st = ((st.map (runSrc k day)).map (·.1), (st.map (runSrc k day)).map (·.2)) := by
  induction k generalizing day st with
  | zero => simp [runProgram, runSrc, Function.comp_def]
  | succ k ih => simp [runProgram, runSrc, ih, List.zipWith_map, List.zipWith_self, Function.comp_def]

/-- activation is complete: after `N ≥ 1` days a program has been confronted, per source, with the
longest started prefix of the source's list; when the list is sorted by start date (which the
generator guarantees, C16 `generate_sorted`) that is every emission starting on or before the last day -/
theorem activate_complete (N : Nat) (st : Store) (hs : ∀ s ∈ st, sortedByStart s.all = true) :
    (runProgram (N + 1) 0 st).1 = expected (N + 1) st := by
  rw [runProgram_eq]
  simp only [expected, List.map_map]
  apply List.map_congr_left
  intro s hsm
  simp only [Function.comp]
  rw [(runSrc_spec N 0 s).1, sorted_takeWhile_eq_filter _ _ (hs s hsm)]
  congr 1
  funext e
  simp [le]

/-- a copying program leaves the loaded scenario untouched for its successors -/
theorem runSeq_copied (N : Nat) (ps : List Nat) (g : Store) :
    ∀ x ∈ runSeq .copied N ps g, x.2 = (runProgram N 0 g).1 := by
  induction ps with
  | nil => intro x hx; cases hx
  | cons p ps ih =>
    intro x hx
    rcases List.mem_cons.1 hx with rfl | hx
    · rfl
    · exact ih x hx

theorem runSchedule_copied (N : Nat) (workers : List (List Nat)) (g : Store) :
    ∀ x ∈ runSchedule .copied N workers g, x.2 = (runProgram N 0 g).1 := by
  intro x hx
  simp only [runSchedule, List.mem_flatten, List.mem_map] at hx
  obtain ⟨l, ⟨ps, _, rfl⟩, hxl⟩ := hx
  exact runSeq_copied N ps g x hxl

/-- C01: with the deep copy, for every set of programs, every order and every allocation to
workers, every program is confronted with exactly the same emissions, and (sorted scenario) with
every emission of the scenario that starts within the period — whatever the other programs did. -/
theorem C01 (N : Nat) (workers : List (List Nat)) (g : Store)
    (hs : ∀ s ∈ g, sortedByStart s.all = true) :
    ∀ x ∈ runSchedule .copied (N + 1) workers g, x.2 = expected (N + 1) g :=
  fun x hx => (runSchedule_copied _ workers g x hx).trans (activate_complete N g hs)

theorem C01_any_two (N : Nat) (workers : List (List Nat)) (g : Store) :
    ∀ x ∈ runSchedule .copied N workers g, ∀ y ∈ runSchedule .copied N workers g, x.2 = y.2 :=
  fun x hx y hy => (runSchedule_copied N workers g x hx).trans (runSchedule_copied N workers g y hy).symm

/-- without the copy the property fails (identity level): the second program of a worker finds the
pending lists consumed -/
theorem C01_needs_copy_consumed :
    ∃ (g : Store) (N : Nat), ∃ x ∈ runSchedule .shared N [[0, 1]] g, x.2 ≠ expected N g := by
  refine ⟨[{ pending := [{ id := 0, start := -3 }, { id := 1, start := 2 }] }], 5, ?_⟩
  decide +kernel

theorem sorted_between (l : List EmId) (d1 d2 : Int) (h : sortedByStart l = true) :
    (l.dropWhile (le d1)).takeWhile (le d2) = l.filter (fun e => !le d1 e && le d2 e) := by
  induction l with
  | nil => rfl
  | cons x xs ih =>
    have hs := sorted_tail x xs h
    by_cases h1 : x.start ≤ d1
    · simp only [le, h1, decide_true, List.dropWhile_cons_of_pos, Bool.not_true, Bool.false_and,
        Bool.false_eq_true, not_false_eq_true, List.filter_cons_of_neg]
      exact ih hs
    · have hd : (x :: xs).dropWhile (le d1) = x :: xs := by simp [le, h1]
      rw [hd, sorted_takeWhile_eq_filter _ _ h]
      apply List.filter_congr
      intro y hy
      have : ¬ y.start ≤ d1 := by
        rcases List.mem_cons.1 hy with rfl | hy
        · exact h1
        · have := sorted_head_le x xs h y hy; omega
      simp [le, this]

theorem srcAfter_all (n : Nat) (s : Src) :
    (srcAfter (n + 1) s).all = s.all.dropWhile (le (n : Int)) := by
  have := (runSrc_spec n 0 s).2
  simpa [srcAfter] using this

/-- **activation day**: with a sorted pending list, the emissions a source hands out on day `n`
(day 0 = first simulated day) are exactly those with `max start 0 = n` — pre-existing emissions on
the first day, every other one on its start date, none twice (the days partition the list) -/
theorem activation_day (s : Src) (hs : sortedByStart s.all = true) (n : Nat) :
    handedOutOn n s = s.all.filter (fun e => decide ((if e.start > 0 then e.start else 0) = (n : Int))) := by
  unfold handedOutOn
  rw [(activateSrc_spec _ _).1]
  cases n with
  | zero =>
    rw [show srcAfter 0 s = s from rfl, sorted_takeWhile_eq_filter _ _ hs]
    refine List.filter_congr fun e _ => ?_
    rw [Bool.eq_iff_iff]
    simp only [le, decide_eq_true_eq]
    split <;> omega
  | succ m =>
    rw [srcAfter_all, sorted_between _ _ _ hs]
    refine List.filter_congr fun e _ => ?_
    rw [Bool.eq_iff_iff]
    simp only [le, Bool.and_eq_true, Bool.not_eq_true', decide_eq_true_eq, decide_eq_false_iff_not]
    split <;> omega

theorem activation_day_mem (s : Src) (hs : sortedByStart s.all = true) (n : Nat) (e : EmId)
    (he : e ∈ s.all) :
    e ∈ handedOutOn n s ↔ (if e.start > 0 then e.start else 0) = (n : Int) := by
  rw [activation_day s hs n]
  simp [he]

/-! ### emission objects, arbitrary program behaviours, copy vs in place -/

theorem copyEm_eq (e : EmId) : copyEm e = e := by cases e; rfl

theorem deepcopy_eq (inf : Infra) : deepcopy inf = inf := by
  have h : copyEm = id := funext copyEm_eq
  unfold deepcopy
  rw [h]
  induction inf with
  | nil => rfl
  | cons s t ih =>
    simp only [List.map_cons, List.map_id, Option.map_id, id] at ih ⊢
    rw [ih]

/-- the identity channel of a program run on an infrastructure object is the run of the cursor loop
on its pending lists — whatever the program does to the emissions it holds -/
theorem runProgramO_proj (b : Beh) (k : Nat) (day : Int) (inf : Infra) :
    (runProgramO b k day inf).1 = (runProgram k day (inf.map (·.src))).1 ∧
    (runProgramO b k day inf).2.map (·.src) = (runProgram k day (inf.map (·.src))).2 := by
  induction k generalizing day inf with
  | zero => simp [runProgramO, runProgram]
  | succ k ih =>
    obtain ⟨h1, h2⟩ := ih (day + 1) ((inf.map (daySrcO b day)).map (·.2))
    simp only [runProgramO, runProgram, h1, h2]
    simp [List.map_map, Function.comp_def, daySrcO]

/-- what a program faces does not depend on what it does: the objects its components already hold,
then the longest started prefixes of the pending lists — as found -/
theorem facedBy_fst (b : Beh) (N : Nat) (inf : Infra) :
    (facedBy b N inf).1 =
      List.zipWith (· ++ ·) (inf.map (·.held)) (runProgram N 0 (inf.map (·.src))).1 := by
  unfold facedBy
  simp only
  rw [(runProgramO_proj b N 0 inf).1]

theorem zipWith_nil_left {α β : Type} (l : List β) (xs : List (List α)) (h : xs.length = l.length) :
    List.zipWith (· ++ ·) (l.map (fun _ => ([] : List α))) xs = xs := by
  induction l generalizing xs with
  | nil => cases xs with
    | nil => rfl
    | cons x xs => simp at h
  | cons a l ih =>
    cases xs with
    | nil => simp at h
    | cons x xs =>
      simp only [List.map_cons, List.zipWith_cons_cons, List.nil_append]
      rw [ih xs (by simpa using h)]

theorem runProgram_length (k : Nat) (day : Int) (st : Store) : (runProgram k day st).1.length = st.length := by
  rw [runProgram_eq]; simp

theorem zipWith_held_pristine (N : Nat) (g : Infra) (hp : pristine g) :
    List.zipWith (· ++ ·) (g.map (·.held)) (runProgram N 0 (g.map (·.src))).1 = (runProgram N 0 (g.map (·.src))).1 := by
  rw [List.map_congr_left (g := fun _ => ([] : List EmId)) fun s hs => hp s hs]
  exact zipWith_nil_left _ _ (by rw [runProgram_length, List.length_map])

theorem facedBy_pristine (b : Beh) (N : Nat) (g : Infra) (hp : pristine g) :
    (facedBy b N g).1 = (runProgram N 0 (g.map (·.src))).1 := by
  rw [facedBy_fst, zipWith_held_pristine N g hp]

theorem runSeqO_copied (N : Nat) (ps : List (Nat × Beh)) (g : Infra) :
    ∀ x ∈ runSeqO .copied N ps g,
      x.2 = List.zipWith (· ++ ·) (g.map (·.held)) (runProgram N 0 (g.map (·.src))).1 := by
  induction ps with
  | nil => intro x hx; cases hx
  | cons p ps ih =>
    intro x hx
    rcases List.mem_cons.1 hx with rfl | hx
    · simp only [deepcopy_eq, facedBy_fst]
    · exact ih x hx

theorem runScheduleO_copied (N : Nat) (workers : List (List (Nat × Beh))) (g : Infra) :
    ∀ x ∈ runScheduleO .copied N workers g,
      x.2 = List.zipWith (· ++ ·) (g.map (·.held)) (runProgram N 0 (g.map (·.src))).1 := by
  intro x hx
  simp only [runScheduleO, List.mem_flatten, List.mem_map, deepcopy_eq] at hx
  obtain ⟨l, ⟨ps, _, rfl⟩, hxl⟩ := hx
  exact runSeqO_copied N ps g x hxl

/-- **C01 on emission objects.**  The deep-copy interpreter, for every set of programs with
ARBITRARY behaviours (each may mutate the life-cycle fields of every emission it holds, every day),
every order and every allocation to workers: every program is confronted, source by source, with
exactly the emission objects of the loaded scenario that start within the period — same identity
(id, start, rate, repairability, natural end) and life-cycle fields as generated. -/
theorem C01_objects (N : Nat) (workers : List (List (Nat × Beh))) (g : Infra) (hp : pristine g)
    (hs : ∀ s ∈ g, sortedByStart s.src.all = true) :
    ∀ x ∈ runScheduleO .copied (N + 1) workers g, x.2 = expected (N + 1) (g.map (·.src)) := by
  intro x hx
  rw [runScheduleO_copied _ workers g x hx, zipWith_held_pristine _ g hp]
  refine activate_complete N _ fun s hsm => ?_
  obtain ⟨t, ht, rfl⟩ := List.mem_map.1 hsm
  exact hs t ht

/-- non-interference proper (no hypothesis on the scenario): under the copy any two programs of a
schedule face the same objects, whatever they and the others do -/
theorem C01_objects_any_two (N : Nat) (workers : List (List (Nat × Beh))) (g : Infra) :
    ∀ x ∈ runScheduleO .copied N workers g, ∀ y ∈ runScheduleO .copied N workers g, x.2 = y.2 :=
  fun x hx y hy => (runScheduleO_copied N workers g x hx).trans (runScheduleO_copied N workers g y hy).symm

/-- a program that "repairs" (sets the life-cycle field to 7) whatever it holds -/
def repairAll : Beh := fun _ _ _ => 7

/-- without the copy the property fails, in both ways.  (1) identity level: the second program of a
worker finds the pending lists consumed (`C01_needs_copy_consumed`).  (2) mutation witness: on
emission objects the second program finds, in its components, the very objects the first one was
handed — the same identities as the scenario, but already "repaired" by the first program. -/
theorem C01_needs_copy :
    (∃ (g : Store) (N : Nat), ∃ x ∈ runSchedule .shared N [[0, 1]] g, x.2 ≠ expected N g) ∧
    (∃ (g : Infra) (N : Nat), pristine g ∧ (∀ s ∈ g, sortedByStart s.src.all = true) ∧
      ∃ x ∈ runScheduleO .shared N [[(0, repairAll), (1, repairAll)]] g,
        x.2.map (·.map ident) = (expected N (g.map (·.src))).map (·.map ident) ∧
        x.2 ≠ expected N (g.map (·.src))) := by
  refine ⟨C01_needs_copy_consumed, ?_⟩
  refine ⟨[{ tag := 0, src := { pending := [{ id := 0, start := -3, rate := 512, nrd := 30 },
                                              { id := 1, start := 2, rate := 1024, nrd := 30 }] } }], 5, ?_⟩
  decide +kernel

/-! ### the next simulation number on the same infrastructure object -/

theorem loadScenario_cons (l : List EmId) (ls : List (List EmId)) (a : SrcO) (t : Infra) :
    loadScenario (l :: ls) (a :: t) = { a with src := { a.src with pending := l } } :: loadScenario ls t := rfl

theorem loadScenario_spec (lists : List (List EmId)) (g : Infra) (hf : fresh g)
    (hl : lists.length ≤ g.length) :
    pristine (loadScenario lists g) ∧
    (loadScenario lists g).map (·.src) = lists.map (fun l => ({ pending := l } : Src)) := by
  induction lists generalizing g with
  | nil => exact ⟨fun s hs => (nomatch hs), rfl⟩
  | cons l ls ih => cases g with
    | nil => simp at hl
    | cons a t =>
      obtain ⟨ih1, ih2⟩ := ih t (fun s hs => hf s (List.mem_cons_of_mem _ hs)) (by simpa using hl)
      obtain ⟨ha1, ha2⟩ := hf a List.mem_cons_self
      refine ⟨fun s hs => ?_, ?_⟩
      · rw [loadScenario_cons, List.mem_cons] at hs
        rcases hs with rfl | hs
        · exact ha1
        · exact ih1 s hs
      · rw [loadScenario_cons, List.map_cons, List.map_cons, ih2]
        simp only [ha2]

/-- **history independence across simulation numbers.**  Under the copy the infrastructure object of
the manager is never run, so it stays `fresh`; loading the scenario of the next simulation number
into it then confronts every program — whatever ran before on copies, whatever the programs do —
with exactly the emissions of THAT scenario that start within the period -/
theorem C01_next_simulation (N : Nat) (workers : List (List (Nat × Beh))) (g : Infra)
    (lists : List (List EmId)) (hf : fresh g) (hl : lists.length = g.length)
    (hs : ∀ l ∈ lists, sortedByStart l = true) :
    ∀ x ∈ runScheduleO .copied (N + 1) workers (loadScenario lists g),
      x.2 = lists.map (fun l => l.filter (fun e => decide (e.start ≤ ((N + 1 : Nat) : Int) - 1))) := by
  obtain ⟨hp, hsrc⟩ := loadScenario_spec lists g hf (Nat.le_of_eq hl)
  have hsorted : ∀ s ∈ loadScenario lists g, sortedByStart s.src.all = true := by
    intro s hsm
    have : s.src ∈ (loadScenario lists g).map (·.src) := List.mem_map_of_mem hsm
    rw [hsrc] at this
    obtain ⟨l, hlm, hle⟩ := List.mem_map.1 this
    rw [← hle]
    exact hs l hlm
  intro x hx
  rw [C01_objects N workers _ hp hsorted x hx, hsrc]
  simp [expected, Src.all, List.map_map, Function.comp]

/-- without the copy, state survives into the next simulation number: the components still hold the
emissions of simulation 0 and the cursor still points at a simulation-0 emission when the lists of
simulation 1 are loaded -/
theorem C01_next_simulation_needs_copy :
    ∃ (g : Infra) (l0 l1 : List (List EmId)) (N : Nat), fresh g ∧
      (facedBy repairAll N (loadScenario l1 (facedBy repairAll N (loadScenario l0 g)).2)).1 ≠
        expected N (l1.map (fun l => ({ pending := l } : Src))) := by
  refine ⟨[{ tag := 0, src := { pending := [] } }],
          [[{ id := 0, start := 1 }, { id := 1, start := 9 }]], [[{ id := 0, start := 2 }]], 5, ?_⟩
  decide +kernel

/-! ### obligations on the wiring extracted from the current source (Generated/Wiring.lean) -/

open Generated.Wiring in
/-- which interpreter the code as it stands implements: `copied` only when `simulate()` deep-copies,
hands on nothing but the copy, and no class reachable from the infrastructure overrides what
`copy.deepcopy` / pickling does -/
def modeOfCode : Mode :=
  if simulateDeepCopies && simulateUsesOnlyCopy && customCopyHooks.isEmpty then .copied else .shared

/-- `simulate()` deep-copies the infrastructure on every path and hands only the copy on; the scenario
is loaded once per simulation number before the program loop; generation reads no life-cycle field -/
theorem wiring_ok :
    Generated.Wiring.simulateDeepCopies = true ∧ Generated.Wiring.simulateUsesOnlyCopy = true ∧
    Generated.Wiring.scenarioLoadedOncePerSim = true ∧ Generated.Wiring.generationIgnoresLifecycle = true := by
  decide

open Generated.Wiring in
/-- no class of virtual_world/* or emission_types/* defines `__deepcopy__`, `__copy__`,
`__reduce_ex__` or `__getstate__`; no `__reduce__`/reconstructor pair drops or misplaces a field;
`Source._create_emission` and the helpers it calls touch no life-cycle attribute -/
theorem copy_hooks_ok :
    customCopyHooks = [] ∧ reduceDropped = [] ∧ reduceMisassigned = [] ∧ creationLifecycleReads = [] := by
  decide

open Generated.Wiring in
/-- does the `__reduce__` of class `cls` carry attribute `attr`? (no `__reduce__`: default pickling
keeps the whole `__dict__`) -/
def carried (cls attr : String) : Bool :=
  match reduceArgs.lookup cls with
  | none => true
  | some args => args.contains "*" || args.contains attr

open Generated.Wiring in
/-- recomputed in Lean from the two raw tables: every attribute an `__init__` of the infrastructure /
emission classes sets is carried by the class's `__reduce__` — nothing is lost when the scenario is
deep-copied for a program or pickled to a pool worker -/
theorem reduce_keeps_every_init_field :
    ∀ p ∈ initAttrs, ∀ a ∈ p.2, carried p.1 a = true := by
  decide +kernel

/-- the identity fields, the pending lists, the cursor and the component lists survive pickling -/
theorem identity_fields_pickled :
    carried "RepairableEmission" "_nrd" = true ∧ carried "NonRepairableEmission" "_duration" = true ∧
    carried "Emission" "_rate" = true ∧ carried "Emission" "_start_date" = true ∧
    carried "Emission" "_emissions_id" = true ∧ carried "Emission" "_repairable" = true ∧
    carried "Source" "_generated_emissions" = true ∧ carried "Source" "_next_emission" = true ∧
    carried "Component" "_active_emissions" = true ∧ carried "Component" "_inactive_emissions" = true := by
  decide +kernel

/-- nothing in programs/*, scheduling/* or `simulate()` mutates in place a list of sites it was
handed (`infra._sites` of the program's own infrastructure is passed to `Program`, every `Method` and
every schedule): no site — and with it its pending emission lists — can drop out of what a program
faces because of the methods it deploys -/
theorem sites_list_untouched : Generated.Wiring.sitesListMutations = [] := by
  decide

open Generated.Wiring in
/-- state that every infrastructure copy of one process would share: the only class- / module-level
mutable container of virtual_world/* and emission_types/* is the constant dtype table of `Emission`;
nothing mutates such a container in place; no function of these packages is cache-decorated -/
theorem no_shared_state_between_copies :
    classLevelContainers = ["Emission.EMIS_SUMMARY_DTYPES"] ∧ classLevelContainerMutations = [] ∧
    cachedFunctions = [] :=
  ⟨rfl, rfl, rfl⟩

theorem modeOfCode_copied : modeOfCode = .copied := by decide

/-- C01 for the code as extracted today -/
theorem C01_current_code (N : Nat) (workers : List (List Nat)) (g : Store)
    (hs : ∀ s ∈ g, sortedByStart s.all = true) :
    ∀ x ∈ runSchedule modeOfCode (N + 1) workers g, x.2 = expected (N + 1) g := by
  rw [modeOfCode_copied]
  exact C01 N workers g hs

/-- ... and on emission objects, for arbitrary program behaviours -/
theorem C01_current_code_objects (N : Nat) (workers : List (List (Nat × Beh))) (g : Infra)
    (hp : pristine g) (hs : ∀ s ∈ g, sortedByStart s.src.all = true) :
    ∀ x ∈ runScheduleO modeOfCode (N + 1) workers g, x.2 = expected (N + 1) (g.map (·.src)) := by
  rw [modeOfCode_copied]
  exact C01_objects N workers g hp hs

/-- non-vacuity of the sortedness hypothesis and of `C01` -/
example :
    let g : Store := [{ pending := [{ id := 0, start := -3 }, { id := 1, start := 2 }, { id := 2, start := 9 }] },
                      { pending := [{ id := 0, start := 4 }] }]
    (∀ s ∈ g, sortedByStart s.all = true) ∧
    runSchedule .copied 6 [[0, 1], [2]] g =
      [(0, [[{ id := 0, start := -3 }, { id := 1, start := 2 }], [{ id := 0, start := 4 }]]),
       (1, [[{ id := 0, start := -3 }, { id := 1, start := 2 }], [{ id := 0, start := 4 }]]),
       (2, [[{ id := 0, start := -3 }, { id := 1, start := 2 }], [{ id := 0, start := 4 }]])] := by
  decide +kernel

/-- non-vacuity of `C01_objects`: a pristine sorted scenario, two workers, three programs with
different behaviours (do nothing / repair everything / age by the day number) -/
example :
    let g : Infra := [{ tag := 0, src := { pending := [{ id := 0, start := -3, rate := 512, nrd := 30 },
                                                         { id := 1, start := 2, rate := 1024, nrd := 30 },
                                                         { id := 2, start := 9 }] } },
                      { tag := 1, src := { pending := [{ id := 0, start := 4, repairable := false, nrd := 20 }] } }]
    let ps : List (List (Nat × Beh)) :=
      [[(0, fun _ _ e => e.life), (1, repairAll)], [(2, fun d _ e => e.life + d.toNat)]]
    pristine g ∧ (∀ s ∈ g, sortedByStart s.src.all = true) ∧
    (∀ x ∈ runScheduleO .copied 6 ps g, x.2 = expected 6 (g.map (·.src))) ∧
    (runScheduleO .copied 6 ps g).length = 3 ∧
    handedOutOn 0 { pending := [{ id := 0, start := -3 }, { id := 1, start := 2 }] } = [{ id := 0, start := -3 }] ∧
    handedOutOn 2 { pending := [{ id := 0, start := -3 }, { id := 1, start := 2 }] } = [{ id := 1, start := 2 }] := by
  decide +kernel

end LdarModel.Heap
