import LdarModel.Lemmas.World
import LdarModel.Props.C03
import LdarModel.Props.C04
/-
C11 — the daily timeseries and the per-emission records tell the same story.
Model: `Model/World.lean` (a world = any list of emissions with arbitrary event schedules).
-/
namespace LdarModel.World
open LdarModel.Emission

theorem sumOver_nil (f : Em → Int) : sumOver [] f = 0 := rfl
theorem sumOver_cons (e : Em) (w : List Em) (f : Em → Int) :
    sumOver (e :: w) f = f e + sumOver w f := by simp [sumOver]

theorem sumOver_congr {w : List Em} {f g : Em → Int} (h : ∀ e ∈ w, f e = g e) : sumOver w f = sumOver w g :=
  congrArg List.sum (List.map_congr_left h)

/-- emission `e` is emitting at the end of day `n` (always true for persistent sources) -/
def emittingAfter (e : Em) (n : Nat) : Bool := isEmitting e.p (st e (n + 1))

/-- the other reading of "emitting at the end of day `n`": `e` was emitting *during* day `n`, i.e.
the flag the daily update of day `n` finds — the one `days_emitting` counts (`daysEmitting_step`).
`emittingAfter` is the flag *after* the toggle of that update, i.e. `is_emitting()` at the moment the
row of day `n` is written; the two are one day apart (`emitting_conventions`).  The property text
("active and emitting at the end of that day") is formalised with `emittingAfter` in `C11_statement`
and with `emittingDuring` in `C11_statement_during`; for persistent sources both hold, for
intermittent sources both fail on the same witness (`f4bWitness_day1`).
(`mid`, `emittingDuring`, `emittingSum` are defined in Model/World.lean.) -/
theorem emittingDuring_def (e : Em) (n : Nat) : emittingDuring e n = isEmitting e.p (mid e n) := rfl

/-- the sums the driver prints for the correspondence are the right-hand sides of the two statements -/
theorem emittingSum_eq (w : List Em) (n : Nat) :
    emittingSum w n true = sumOver w (fun e => ind (activeAt e (n + 1) && emittingAfter e n) * e.rate) ∧
    emittingSum w n false = sumOver w (fun e => ind (activeAt e (n + 1) && emittingDuring e n) * e.rate) :=
  ⟨rfl, rfl⟩

/-- C11 at full strength -/
def C11_statement : Prop :=
  ∀ (w : List Em) (n : Nat),
    (row w n).active = prevActive w n + (row w n).new - (row w n).repaired
        - (row w n).natRepaired - (row w n).expired
    ∧ (row w n).emis = sumOver w (fun e => ind (activeAt e (n + 1) && emittingAfter e n) * e.rate)
    ∧ (row w n).emis = (row w n).emisMit + (row w n).emisNonMit

/-- C11 with "emitting" read as "emitting during the day" (consistent with `days_emitting`) -/
def C11_statement_during : Prop :=
  ∀ (w : List Em) (n : Nat),
    (row w n).active = prevActive w n + (row w n).new - (row w n).repaired
        - (row w n).natRepaired - (row w n).expired
    ∧ (row w n).emis = sumOver w (fun e => ind (activeAt e (n + 1) && emittingDuring e n) * e.rate)
    ∧ (row w n).emis = (row w n).emisMit + (row w n).emisNonMit

/-- active leaks = previous day's active leaks + new − repaired − naturally repaired − expired,
for every world, every day (including day 0) and whatever the program did -/
theorem ledger (w : List Em) (n : Nat) :
    (row w n).active = prevActive w n + (row w n).new - (row w n).repaired
        - (row w n).natRepaired - (row w n).expired := by
  have prev : prevActive w n = sumOver w (fun e => ind (activeAt e n)) := by
    cases n with
    | zero =>
      induction w with
      | nil => rfl
      | cons e w ih => rw [sumOver_cons, ← ih]; rfl
    | succ m => rfl
  rw [prev]
  clear prev
  simp only [row]
  induction w with
  | nil => rfl
  | cons e w ih =>
    simp only [sumOver_cons]
    have h1 := em_ledger e n
    have h2 := em_ended_split e n
    omega

theorem emis_split (w : List Em) (n : Nat) :
    (row w n).emis = (row w n).emisMit + (row w n).emisNonMit := by
  simp only [row]
  induction w with
  | nil => simp [sumOver_nil]
  | cons e w ih =>
    simp only [sumOver_cons]
    cases e.p.repairable <;> simp <;> omega

/-- the day's emissions are the summed rates of the emissions active at the end of the day
(× 86.4 outside the model) -/
theorem emis_active (w : List Em) (n : Nat) :
    (row w n).emis = sumOver w (fun e => ind (activeAt e (n + 1)) * e.rate) := rfl

/-- ... and of those active *and emitting* when every source is persistent -/
theorem emis_active_emitting_partial (w : List Em) (n : Nat)
    (h : ∀ e ∈ w, e.p.intermittent = false) :
    (row w n).emis = sumOver w (fun e => ind (activeAt e (n + 1) && emittingAfter e n) * e.rate) :=
  sumOver_congr fun e he => by simp [emittingAfter, isEmitting, h e he]

theorem C11_partial (w : List Em) (n : Nat) (h : ∀ e ∈ w, e.p.intermittent = false) :
    (row w n).active = prevActive w n + (row w n).new - (row w n).repaired
        - (row w n).natRepaired - (row w n).expired
    ∧ (row w n).emis = sumOver w (fun e => ind (activeAt e (n + 1) && emittingAfter e n) * e.rate)
    ∧ (row w n).emis = (row w n).emisMit + (row w n).emisNonMit :=
  ⟨ledger w n, emis_active_emitting_partial w n h, emis_split w n⟩

theorem emis_active_emitting_during_partial (w : List Em) (n : Nat)
    (h : ∀ e ∈ w, e.p.intermittent = false) :
    (row w n).emis = sumOver w (fun e => ind (activeAt e (n + 1) && emittingDuring e n) * e.rate) :=
  sumOver_congr fun e he => by simp [emittingDuring, isEmitting, h e he]

theorem C11_during_partial (w : List Em) (n : Nat) (h : ∀ e ∈ w, e.p.intermittent = false) :
    (row w n).active = prevActive w n + (row w n).new - (row w n).repaired
        - (row w n).natRepaired - (row w n).expired
    ∧ (row w n).emis = sumOver w (fun e => ind (activeAt e (n + 1) && emittingDuring e n) * e.rate)
    ∧ (row w n).emis = (row w n).emisMit + (row w n).emisNonMit :=
  ⟨ledger w n, emis_active_emitting_during_partial w n h, emis_split w n⟩

/-- the F4b witness: one intermittent source, on 1 day / off 2 days, rate 1, started on day 0 -/
def f4bWitness : List Em :=
  [{ p := { start := 0, nrd := 10, repairDelay := 0, repairable := true,
            intermittent := true, activeDur := 1, inactiveDur := 2 },
     rate := 1, ev := fun _ => [] }]

/-- on day 1 the witness is active, did not emit during the day (`days_emitting` unchanged) and is
not emitting at its end — whichever way "emitting" is read — and the row still shows its rate.
(A source "on 1 / off 1" on day 0 would be a witness under the after-update reading only: it *does*
emit during day 0 and `days_emitting` counts the day.) -/
theorem f4bWitness_day1 :
    (row f4bWitness 1).active = 1 ∧ (row f4bWitness 1).emis = 1 ∧
    (∀ e ∈ f4bWitness, emittingAfter e 1 = false ∧ emittingDuring e 1 = false ∧
        (st e 2).daysEmitting = (st e 1).daysEmitting) := by
  decide +kernel

/-- Known finding F4b: for intermittent sources the daily emissions include active emissions that
are *not emitting* (`update_emissions_state` adds `get_daily_emis()` of every emission that stays
active; `is_emitting()` is not consulted).  Witness: `f4bWitness`, day 1. -/
theorem C11_counterexample : ¬ C11_statement := by
  intro h
  have := (h f4bWitness 1).2.1
  revert this
  decide +kernel

/-- ... and the same witness refutes the statement under the `days_emitting` reading -/
theorem C11_during_counterexample : ¬ C11_statement_during := by
  intro h
  have := (h f4bWitness 1).2.1
  revert this
  decide +kernel

theorem life (e : Em) (m : Nat) :
    ((st e m).status = .inactive → (m : Int) ≤ a e.p) ∧
    ((st e m).status = .active → a e.p < m ∧ (st e m).activeDays = m - a e.p ∧ (st e m).endDate = none) ∧
    (((st e m).status = .repaired ∨ (st e m).status = .expired) →
        (st e m).endDate = some (a e.p + (st e m).activeDays) ∧ 1 ≤ (st e m).activeDays ∧
        (st e m).activeDays ≤ m - a e.p) := by
  -- none of this reads the detection record: argue on the run over the tag requests
  obtain ⟨i, b, he⟩ := runE_eq e.p e.ev m
  have hend := C04_end_date e.p (fun d => tagsOf (e.ev d)) m
  have hab := start_add_b4 e.p
  have hL := L_pos e.p
  unfold st
  rw [he]
  -- each clause is the clause of the run's invariant (`InvN` / `Inv`) for that status, with
  -- `start + b4 = a` and, for an ended emission, its end date (`C04_end_date`)
  cases hr : e.p.repairable
  · have hi := run_invN e.p hr (fun d => tagsOf (e.ev d)) m
    unfold InvN at hi
    generalize run e.p (fun d => tagsOf (e.ev d)) m = s at *
    grind
  · have hi := run_inv e.p hr (fun d => tagsOf (e.ev d)) m
    unfold Emission.Inv at hi
    generalize run e.p (fun d => tagsOf (e.ev d)) m = s at *
    grind

theorem st_inactive_iff (e : Em) (m : Nat) : (st e m).status = .inactive ↔ (m : Int) ≤ a e.p := by
  have l := life e m
  refine ⟨l.1, fun h => ?_⟩
  cases hs : (st e m).status with
  | inactive => rfl
  | active => have := (l.2.1 hs).1; omega
  | repaired => have := l.2.2 (Or.inl hs); omega
  | expired => have := l.2.2 (Or.inr hs); omega

theorem isNew_eq (e : Em) (n : Nat) : isNew e n = decide (a e.p = (n : Int)) := by
  have ha : e.p.start ≤ a e.p ∧ 0 ≤ a e.p ∧ (a e.p = e.p.start ∨ a e.p = 0) := by unfold a; split <;> omega
  rw [Bool.eq_iff_iff]
  simp only [isNew, Bool.and_eq_true, decide_eq_true_eq, st_inactive_iff]
  omega

/-! ### counts over the run = counts in the records -/

def sumDays (N : Nat) (f : Nat → Int) : Int := ((List.range N).map f).sum

theorem sumDays_succ (N : Nat) (f : Nat → Int) : sumDays (N + 1) f = sumDays N f + f N := by
  simp [sumDays, List.range_succ]

theorem em_new_step (e : Em) (n : Nat) :
    ind (decide ((st e (n + 1)).status ≠ .inactive)) =
      ind (decide ((st e n).status ≠ .inactive)) + ind (isNew e n) := by
  simp only [ind, isNew_eq, ne_eq, st_inactive_iff, decide_not, Bool.not_eq_true', decide_eq_false_iff_not,
    decide_eq_true_eq]
  -- three indicators, each comparing the day with `max start 0`
  push_cast
  split <;> split <;> split <;> omega

theorem em_new_count (e : Em) (N : Nat) :
    sumDays N (fun n => ind (isNew e n)) = ind (recOf e N).present := by
  induction N with
  | zero => simp [sumDays, recOf, st, runE, init, ind]
  | succ N ih =>
    rw [sumDays_succ, ih]
    have := em_new_step e N
    simp only [recOf] at *
    omega

/-- how an emission ended, as the records show it -/
def endedAs (r : Rec) (k : Nat) : Bool :=
  match k with
  | 0 => decide (r.status = .repaired) && !decide (r.by_ = .natural)   -- repaired by the program
  | 1 => decide (r.status = .repaired) && decide (r.by_ = .natural)    -- naturally repaired
  | _ => decide (r.status = .expired)                                   -- expired

theorem endedAs_eq (r : Rec) (k : Nat) : endedAs r k = recEndedAs r k := by
  rcases k with _ | _ | k <;> rfl

def endedOnAs (e : Em) (n : Nat) (k : Nat) : Bool :=
  match k with
  | 0 => repairedOn e n
  | 1 => natRepairedOn e n
  | _ => expiredOn e n

/-- the four ways one day can treat one emission -/
theorem em_step_cases (e : Em) (n : Nat) :
    ((st e n).status = .inactive ∧ e.p.start ≤ (n : Int) ∧
        ((st e (n + 1)).status = .active ∨ (st e (n + 1)).status = .repaired ∨ (st e (n + 1)).status = .expired))
    ∨ ((st e n).status = .inactive ∧ ¬ e.p.start ≤ (n : Int) ∧ (st e (n + 1)).status = .inactive)
    ∨ ((st e n).status = .active ∧
        ((st e (n + 1)).status = .active ∨ (st e (n + 1)).status = .repaired ∨ (st e (n + 1)).status = .expired))
    ∨ (((st e n).status = .repaired ∨ (st e n).status = .expired) ∧ st e (n + 1) = st e n) := by
  rw [st_succ]
  cases hs : (st e n).status
  · by_cases hn : e.p.start ≤ (n : Int)
    · exact Or.inl ⟨rfl, hn, dayE_live e.p n (e.ev n) (st e n) (Or.inr ⟨hs, hn⟩)⟩
    · exact Or.inr (Or.inl ⟨rfl, hn, dayE_pending e.p n (e.ev n) (st e n) hs hn⟩)
  · exact Or.inr (Or.inr (Or.inl ⟨rfl, dayE_live e.p n (e.ev n) (st e n) (Or.inl hs)⟩))
  · exact Or.inr (Or.inr (Or.inr ⟨Or.inl rfl, dayE_frozen e.p n (e.ev n) (st e n) (Or.inl hs)⟩))
  · exact Or.inr (Or.inr (Or.inr ⟨Or.inr rfl, dayE_frozen e.p n (e.ev n) (st e n) (Or.inr hs)⟩))

theorem endedAs_live (r : Rec) (k : Nat) (h : r.status = .inactive ∨ r.status = .active) :
    endedAs r k = false := by
  rcases k with _ | _ | k <;> rcases h with h | h <;> simp [endedAs, h]

theorem endedAs_over (r : Rec) (k : Nat) (h : endedAs r k = true) : r.status = .repaired ∨ r.status = .expired := by
  cases hs : r.status with
  | inactive => rw [endedAs_live r k (Or.inl hs)] at h; cases h
  | active => rw [endedAs_live r k (Or.inr hs)] at h; cases h
  | repaired => exact Or.inl rfl
  | expired => exact Or.inr rfl

theorem endedOnAs_eq (e : Em) (n k : Nat) :
    endedOnAs e n k = (endedOn e n && endedAs (recOf e (n + 1)) k) := by
  rcases k with _ | _ | k
  · exact Bool.and_assoc ..
  · exact Bool.and_assoc ..
  · rfl

theorem em_end_step (e : Em) (n : Nat) (k : Nat) :
    ind (endedAs (recOf e (n + 1)) k) = ind (endedAs (recOf e n) k) + ind (endedOnAs e n k) := by
  rw [endedOnAs_eq]
  have live : ((st e n).status = .inactive ∨ (st e n).status = .active) →
      endedOn e n = !activeAt e (n + 1) →
      ind (endedAs (recOf e (n + 1)) k) =
        ind (endedAs (recOf e n) k) + ind (endedOn e n && endedAs (recOf e (n + 1)) k) := by
    intro hpre hon
    rw [endedAs_live (recOf e n) k hpre, hon]
    by_cases ha : (st e (n + 1)).status = .active
    · rw [endedAs_live (recOf e (n + 1)) k (Or.inr ha), Bool.and_false]; rfl
    · simp [activeAt, ha, ind]
  rcases em_step_cases e n with ⟨h1, h2, _⟩ | ⟨h1, _, h3⟩ | ⟨h1, _⟩ | ⟨h1, h3⟩
  · exact live (Or.inl h1) (by simp [endedOn, isNew, h1, h2])
  · rw [endedAs_live (recOf e n) k (Or.inl h1), endedAs_live (recOf e (n + 1)) k (Or.inl h3), Bool.and_false]; rfl
  · exact live (Or.inr h1) (by simp [endedOn, activeAt, h1])
  · have : endedOn e n = false := by rcases h1 with h | h <;> simp [endedOn, activeAt, isNew, h]
    simp only [recOf, h3, this, Bool.false_and, ind]; simp

theorem em_end_count (e : Em) (N : Nat) (k : Nat) :
    sumDays N (fun n => ind (endedOnAs e n k)) = ind (endedAs (recOf e N) k) := by
  induction N with
  | zero => rcases k with _ | _ | k <;> simp [sumDays, endedAs, recOf, st, runE, init, ind]
  | succ N ih =>
    rw [sumDays_succ, ih]
    have := em_end_step e N k
    omega

theorem sumOver_add (w : List Em) (g h : Em → Int) :
    sumOver w (fun e => g e + h e) = sumOver w g + sumOver w h := by
  induction w with
  | nil => rfl
  | cons e w ih => simp only [sumOver_cons, ih]; omega

theorem sumDays_sumOver (w : List Em) (N : Nat) (f : Em → Nat → Int) :
    sumDays N (fun n => sumOver w (fun e => f e n)) = sumOver w (fun e => sumDays N (f e)) := by
  induction N with
  | zero =>
    simp only [sumDays, List.range_zero, List.map_nil, List.sum_nil]
    induction w with
    | nil => rfl
    | cons e w ih => simp only [sumOver_cons, ← ih]; simp
  | succ N ih =>
    simp only [sumDays_succ, ih, sumOver_add]

/-- new leaks summed over the run = number of emission records; repaired / naturally repaired /
expired counts summed over the run = number of records with that end -/
theorem counts (w : List Em) (N : Nat) :
    sumDays N (fun n => (row w n).new) = sumOver w (fun e => ind (recOf e N).present)
    ∧ sumDays N (fun n => (row w n).repaired) = sumOver w (fun e => ind (endedAs (recOf e N) 0))
    ∧ sumDays N (fun n => (row w n).natRepaired) = sumOver w (fun e => ind (endedAs (recOf e N) 1))
    ∧ sumDays N (fun n => (row w n).expired) = sumOver w (fun e => ind (endedAs (recOf e N) 2)) := by
  have col : ∀ (f : Em → Nat → Int) (g : Em → Int), (∀ e, sumDays N (f e) = g e) →
      sumDays N (fun n => sumOver w (fun e => f e n)) = sumOver w g := fun f g h => by
    rw [sumDays_sumOver]; exact sumOver_congr fun e _ => h e
  exact ⟨col _ _ fun e => em_new_count e N, col _ _ fun e => em_end_count e N 0,
    col _ _ fun e => em_end_count e N 1, col _ _ fun e => em_end_count e N 2⟩

/-! ### the daily series can be reconstructed from the records -/

theorem frozen_from (e : Em) (m k : Nat)
    (h : (st e m).status = .repaired ∨ (st e m).status = .expired) : st e (m + k) = st e m := by
  induction k with
  | zero => rfl
  | succ k ih =>
    have : st e (m + (k + 1)) = dayE e.p ((m + k : Nat) : Int) (e.ev (m + k)) (st e (m + k)) := rfl
    rw [this, ih]
    exact dayE_frozen e.p _ _ _ h

/-- once active after `m` days, the emission is later either still active or ended with more
active days than it had then -/
theorem after_active (e : Em) (m : Nat) (h : (st e m).status = .active) (k : Nat) :
    (st e (m + k)).status = .active ∨
    (((st e (m + k)).status = .repaired ∨ (st e (m + k)).status = .expired) ∧
      (st e (m + k)).activeDays ≥ (m : Int) - a e.p + 1) := by
  induction k with
  | zero => exact Or.inl h
  | succ k ih =>
    have hs : st e (m + (k + 1)) = st e ((m + k) + 1) := rfl
    rw [hs]
    rcases ih with hact | ⟨hend, hge⟩
    · have hl := (life e (m + k)).2.1 hact
      have hd : (st e ((m + k) + 1)).activeDays = (st e (m + k)).activeDays + 1 :=
        dayE_activeDays _ _ _ _ hact
      rcases dayE_live e.p (m + k : Nat) (e.ev (m + k)) _ (Or.inl hact) with h3 | h3 | h3
      · exact Or.inl h3
      · exact Or.inr ⟨Or.inl h3, by rw [hd, hl.2.1]; push_cast; omega⟩
      · exact Or.inr ⟨Or.inr h3, by rw [hd, hl.2.1]; push_cast; omega⟩
    · rw [frozen_from e (m + k) 1 hend]
      exact Or.inr ⟨hend, hge⟩

/-- the emission has left the active list for good -/
def Over (s : State) : Prop := s.status = .repaired ∨ s.status = .expired

/-- seen from a later day `N`, the emission had ended by day `m` exactly when its final end date is
at most `m` -/
theorem over_iff (e : Em) (m N : Nat) (h : m ≤ N) :
    Over (st e m) ↔ Over (st e N) ∧ ∃ d, (st e N).endDate = some d ∧ d ≤ (m : Int) := by
  obtain ⟨k, rfl⟩ := Nat.exists_eq_add_of_le h
  have lm := life e m
  constructor
  · intro ho
    rw [frozen_from e m k ho]
    have := lm.2.2 ho
    exact ⟨ho, _, this.1, by omega⟩
  · rintro ⟨hN, d, hd, hle⟩
    have hl := (life e (m + k)).2.2 hN
    rw [hl.1] at hd
    injection hd with hd
    cases hs : (st e m).status with
    | inactive => have := lm.1 hs; omega
    | active =>
      rcases after_active e m hs k with hact | ⟨_, hge⟩
      · rcases hN with h | h <;> rw [hact] at h <;> cases h
      · omega
    | repaired => exact Or.inl hs
    | expired => exact Or.inr hs

theorem endedOn_over (e : Em) (n : Nat) : endedOn e n = true ↔ ¬ Over (st e n) ∧ Over (st e (n + 1)) := by
  -- in each of the ways a day can treat an emission, the statuses before and after decide both sides
  rcases em_step_cases e n with ⟨h1, h2, h3 | h3 | h3⟩ | ⟨h1, h2, h3⟩ | ⟨h1, h3 | h3 | h3⟩ | ⟨h1 | h1, h3⟩ <;>
    simp [endedOn, activeAt, isNew, Over, *]

theorem active_iff (s : State) : s.status = .active ↔ s.status ≠ .inactive ∧ ¬ Over s := by
  cases h : s.status <;> simp [Over, h]

/-- C11 reconstruction: whether an emission counts as active at the end of day `n` can be read off
its record (start date, end date) alone; hence every row of the series — counts and emission sums —
is a function of the records' start dates, end dates, rates and repairability. -/
theorem reconstruct_em (e : Em) (N n : Nat) (h : n < N) :
    activeAt e (n + 1) = recActiveAfter (recOf e N) n := by
  have lN := life e N
  have ha : (if e.p.start > 0 then e.p.start else 0) = a e.p := rfl
  rw [Bool.eq_iff_iff]
  simp only [activeAt, recActiveAfter, recOf, ha, Bool.and_eq_true, decide_eq_true_eq, active_iff, ne_eq,
    st_inactive_iff, over_iff e (n + 1) N (by omega)]
  push_cast
  cases hs : (st e N).status with
  | inactive => have := lN.1 hs; simp [Over, hs]; omega
  | active => have := (lN.2.1 hs).2.2; simp [Over, hs, this]; omega
  | repaired =>
    have := (lN.2.2 (Or.inl hs)).1
    simp [Over, hs, this]; omega
  | expired =>
    have := (lN.2.2 (Or.inr hs)).1
    simp [Over, hs, this]; omega

/-- the row's active count and emission sums recomputed from the records of a run of `N` days -/
theorem reconstruct (w : List Em) (N n : Nat) (h : n < N) :
    (row w n).active = sumOver w (fun e => ind (recActiveAfter (recOf e N) n))
    ∧ (row w n).emis = sumOver w (fun e => ind (recActiveAfter (recOf e N) n) * (recOf e N).rate)
    ∧ (row w n).emisMit = sumOver w (fun e =>
        if (recOf e N).repairable then ind (recActiveAfter (recOf e N) n) * (recOf e N).rate else 0)
    ∧ (row w n).emisNonMit = sumOver w (fun e =>
        if (recOf e N).repairable then 0 else ind (recActiveAfter (recOf e N) n) * (recOf e N).rate) := by
  have hr : ∀ e : Em, activeAt e (n + 1) = recActiveAfter (recOf e N) n :=
    fun e => reconstruct_em e N n h
  simp only [row, hr]
  exact ⟨trivial, rfl, rfl, rfl⟩

/-- once activated, an emission never returns to the pending state -/
theorem present_mono (e : Em) (m k : Nat) (h : (st e m).status ≠ .inactive) :
    (st e (m + k)).status ≠ .inactive := by
  rw [Ne, st_inactive_iff] at h ⊢
  push_cast
  omega

/-- an emission is counted in "New Leaks" of day `n` exactly when it has a record and
`max start 0 = n` -/
theorem reconstruct_new (e : Em) (N n : Nat) (h : n < N) :
    isNew e n = recNewOn (recOf e N) n := by
  have hp : a e.p = (n : Int) → (st e N).status ≠ .inactive := fun ha hs => by
    have := (st_inactive_iff e N).1 hs; omega
  rw [isNew_eq, Bool.eq_iff_iff]
  simp only [recNewOn, recOf, Bool.and_eq_true, decide_eq_true_eq]
  exact ⟨fun ha => ⟨hp ha, decide_eq_true ha⟩, fun h => of_decide_eq_true h.2⟩

/-- an emission that is repaired / expired after day `n` left the active list in the update of day
`n` exactly when its end date is day `n + 1` -/
theorem endedOn_iff (e : Em) (n : Nat)
    (hend : (st e (n + 1)).status = .repaired ∨ (st e (n + 1)).status = .expired) :
    endedOn e n = decide ((st e (n + 1)).endDate = some ((n : Int) + 1)) := by
  have ho : Over (st e (n + 1)) := hend
  have hl := (life e (n + 1)).2.2 hend
  rw [Bool.eq_iff_iff, endedOn_over, decide_eq_true_eq, over_iff e n (n + 1) (by omega)]
  simp only [ho, true_and, and_true, hl.1, Option.some.injEq, exists_eq_left']
  push_cast at hl
  omega

/-- whether an emission was repaired by the program (`k = 0`), naturally repaired (`k = 1`) or
expired (`k = 2`) in the update of day `n` can be read off its record: that end kind, and end date
`n + 1` -/
theorem reconstruct_ended (e : Em) (N n k : Nat) (h : n < N) :
    endedOnAs e n k = recEndedOn (recOf e N) k n := by
  obtain ⟨j, rfl⟩ : ∃ j, N = (n + 1) + j := ⟨N - (n + 1), by omega⟩
  rw [endedOnAs_eq, recEndedOn, ← endedAs_eq]
  by_cases ho : Over (st e (n + 1))
  · have hr : recOf e (n + 1 + j) = recOf e (n + 1) := by unfold recOf; rw [frozen_from e (n + 1) j ho]
    rw [hr, endedOn_iff e n ho, Bool.and_comm]; rfl
  · have h1 : endedOn e n = false := by
      rw [← Bool.not_eq_true, endedOn_over]; exact fun h => ho h.2
    rw [h1, Bool.false_and, eq_comm, Bool.and_eq_false_iff, decide_eq_false_iff_not, ← Bool.not_eq_true]
    by_cases hE : endedAs (recOf e (n + 1 + j)) k = true
    · exact Or.inr fun hd =>
        ho ((over_iff e (n + 1) (n + 1 + j) (by omega)).2 ⟨endedAs_over _ k hE, _, hd, by push_cast; omega⟩)
    · exact Or.inl hE

/-! ### every column of every row from the records -/

theorem sumOver_records (w : List Em) (N : Nat) (f : Rec → Int) :
    sumRecs (records w N) f = sumOver w (fun e => f (recOf e N)) := by
  simp only [sumRecs, records, sumOver, List.map_map]; rfl

/-- C11 reconstruction at full strength: the complete row of every simulated day — new, active,
repaired, naturally repaired, expired, emissions, mitigable and non-mitigable emissions — is the
function `recRow` (Model/World.lean) of the records' start dates, end dates, end kinds, rates and
repairability alone -/
theorem reconstruct_row (w : List Em) (N n : Nat) (h : n < N) :
    row w n = recRow (records w N) n := by
  have ha : ∀ e : Em, activeAt e (n + 1) = recActiveAfter (recOf e N) n :=
    fun e => reconstruct_em e N n h
  have hn : ∀ e : Em, isNew e n = recNewOn (recOf e N) n := fun e => reconstruct_new e N n h
  have h0 : ∀ e : Em, repairedOn e n = recEndedOn (recOf e N) 0 n := fun e => reconstruct_ended e N n 0 h
  have h1 : ∀ e : Em, natRepairedOn e n = recEndedOn (recOf e N) 1 n := fun e => reconstruct_ended e N n 1 h
  have h2 : ∀ e : Em, expiredOn e n = recEndedOn (recOf e N) 2 n := fun e => reconstruct_ended e N n 2 h
  simp only [row, recRow, sumOver_records, ha, hn, h0, h1, h2]
  rfl

/-! ### the two readings of "emitting at the end of the day" -/

theorem st_succ_mid (e : Em) (n : Nat) : st e (n + 1) = update e.p (mid e n) := rfl

/-- the two readings of "emitting at the end of day `n`" are one day apart: the flag after the
update of day `n` is the flag the update of day `n + 1` finds -/
theorem emitting_conventions (e : Em) (n : Nat) (h : activeAt e (n + 1) = true) :
    emittingAfter e n = emittingDuring e (n + 1) := by
  unfold emittingAfter emittingDuring mid isEmitting
  have hs : (st e (n + 1)).status = .active := by simpa [activeAt] using h
  have ha : activate e.p ((n + 1 : Nat) : Int) (st e (n + 1)) = st e (n + 1) := by
    unfold activate; simp [hs]
  rw [ha, (events_core ..).2.2.1]

theorem toggle_daysEmitting (p : Params) (t : State) (hi : p.intermittent = true) :
    (toggle p t).daysEmitting = t.daysEmitting + ind t.emitting := by
  unfold toggle
  rw [if_neg (by simp [hi])]
  cases t.emitting
  · simp only [Bool.false_eq_true, if_false, ind]; split <;> simp
  · simp only [if_true, ind]; split <;> rfl

/-- `days_emitting` of an intermittent emission that stays active counts exactly the days on which it
was emitting *during* the day -/
theorem daysEmitting_step (e : Em) (n : Nat) (hi : e.p.intermittent = true)
    (h : activeAt e (n + 1) = true) :
    (st e (n + 1)).daysEmitting = (st e n).daysEmitting + ind (emittingDuring e n) := by
  have hs : (update e.p (mid e n)).status = .active := by rw [← st_succ_mid]; simpa [activeAt] using h
  have hm : (mid e n).daysEmitting = (st e n).daysEmitting := by
    unfold mid; rw [(events_core ..).2.2.2]; unfold activate; split <;> rfl
  have hmid : (mid e n).status = .active := by
    by_cases hc : (mid e n).status = .active
    · exact hc
    · rw [update, if_pos hc] at hs; exact hs
  rcases (update_active e.p _ hmid).2 with h' | h' | h'
  · rw [hs] at h'; cases h'
  · rw [hs] at h'; cases h'
  · rw [st_succ_mid, h', toggle_daysEmitting _ _ hi, ← hm, emittingDuring, isEmitting, if_pos hi]

/-- non-vacuity: a two-emission world over 6 days -/
example :
    let p1 : Params := { start := -2, nrd := 5, repairDelay := 1, repairable := true,
                         intermittent := false, activeDur := 1, inactiveDur := 0 }
    let p2 : Params := { start := 1, nrd := 3, repairDelay := 0, repairable := false,
                         intermittent := false, activeDur := 1, inactiveDur := 0 }
    let w : List Em := [{ p := p1, rate := 2, ev := fun d => if d = 1 then [.tag { company := 1, trd := 0 }] else [] },
                        { p := p2, rate := 4, ev := fun _ => [] }]
    (row w 0).new = 1 ∧ (row w 1).active = 1 ∧ (row w 1).repaired = 1 ∧ (row w 3).expired = 1 ∧
    (row w 2).emis = 4 ∧
    (recRow (records w 6) 0).new = 1 ∧ (recRow (records w 6) 1).repaired = 1 ∧
    (recRow (records w 6) 3).expired = 1 ∧ (recRow (records w 6) 2).emis = 4 := by
  decide +kernel

end LdarModel.World
