import LdarModel.Lemmas.Sensor
import LdarModel.Lemmas.EmissionE
/-
C05 — a method never acts on emissions it cannot see (MDL, coverage, intermittency).

Model: `Model/Sensor.lean` (`checkSpatialCov`, `detect`, `visible`, `rateComp/rateEqg/rateSite`,
`measure`, `report`, `survey`, `tagTargets`, `flagCandidate`, `dayEvents`) and, for the last clause,
the emission state machine of `Model/Emission.lean` (`run`, `baseline`).

Everything is proved for every layout, every list of emissions, every detection limit (any sign),
every quantification shift (any integer percentage, including below −100), every outcome of every
coverage roll, at the three measurement scales.

Scope note (DESIGN.md 5.5): at component scale detection is per *component*; a tag request for a
component then tags all active emissions of that component (`Component.tag_emissions`).  The
property speaks of the measured rate at the method's measurement scale, which is what is proved.
-/
namespace LdarModel.Sensor
open LdarModel

/-! ### what a report says, relative to the visible list -/

/-- soundness of a site report against the list of emissions the method can see -/
def ReportSound (cfg : Cfg) (mdl : Int) (s : Nat) (vis : List Emis) (rep : SiteRep) : Prop :=
  0 ≤ rep.measured ∧
  match cfg with
  | .component _ =>
    (∀ er ∈ rep.eqgs, 0 ≤ er.measured ∧ ∀ cr ∈ er.comps,
        cr.eqg = er.eqg ∧ cr.trueRate = rateComp vis s er.eqg cr.comp ∧ 0 ≤ cr.measured ∧
        (cr.measured ≠ 0 → mdl ≤ rateComp vis s er.eqg cr.comp) ∧
        (rateComp vis s er.eqg cr.comp = 0 → cr.measured = 0)) ∧
    (rep.measured ≠ 0 → ∃ er ∈ rep.eqgs, ∃ cr ∈ er.comps,
        cr.measured ≠ 0 ∧ mdl ≤ rateComp vis s er.eqg cr.comp) ∧
    rep.recorded = []
  | .eqg _ =>
    (∀ er ∈ rep.eqgs, er.trueRate = rateEqg vis s er.eqg ∧ 0 ≤ er.measured ∧
        (er.measured ≠ 0 → mdl ≤ rateEqg vis s er.eqg) ∧
        (rateEqg vis s er.eqg = 0 → er.measured = 0) ∧ er.comps = []) ∧
    (rep.measured ≠ 0 → ∃ er ∈ rep.eqgs, er.measured ≠ 0 ∧ mdl ≤ rateEqg vis s er.eqg) ∧
    rep.recorded = []
  | .site _ =>
    rep.trueRate = rateSite vis s ∧ (rep.measured ≠ 0 → mdl ≤ rateSite vis s) ∧
    (rateSite vis s = 0 → rep.measured = 0) ∧ rep.eqgs = [] ∧
    (rep.recorded ≠ [] → mdl ≤ rateSite vis s) ∧ (∀ i ∈ rep.recorded, ∃ e ∈ vis, e.id = i)

/-- measured rates are never negative -/
theorem C05_measured_nonneg (mdl err r : Int) : 0 ≤ measure mdl err r := measure_nonneg mdl err r

/-- a non-zero measured rate needs a true rate at or above the detection limit -/
theorem C05_measured_ne_zero (mdl err r : Int) (h : measure mdl err r ≠ 0) : mdl ≤ r :=
  measure_ne_zero mdl err r h

/-- below the limit, and when nothing is seen (rate 0), the measured rate is zero -/
theorem C05_measured_zero (mdl err r : Int) :
    (r < mdl → measure mdl err r = 0) ∧ (r = 0 → measure mdl err r = 0) :=
  ⟨measure_below mdl err r, measure_zero_rate mdl err r⟩

/-- at every scale: every line of the report is the visible rate of its unit, measured rates are
≥ 0, non-zero only with visible rate ≥ MDL, zero when the unit shows nothing; a non-zero site total
needs a detected unit -/
theorem C05_report_sound (cfg : Cfg) (mdl : Int) (s : Nat) (vis : List Emis) :
    ReportSound cfg mdl s vis (report cfg mdl s vis) := by
  cases cfg with
  | component layout =>
    have hE : ∀ er ∈ layout.map (eqgRepC vis mdl s), 0 ≤ er.measured := fun er her => by
      obtain ⟨ge, _, rfl⟩ := List.mem_map.1 her
      exact eqgRepC_measured_nonneg vis mdl s ge
    refine ⟨?_, fun er her => ⟨hE er her, fun cr hcr => ?_⟩, fun hne => ?_, rfl⟩
    · rw [report_component_measured]; exact sum_map_nonneg _ _ hE
    · obtain ⟨ge, _, rfl⟩ := List.mem_map.1 her
      obtain ⟨ce, _, rfl⟩ := List.mem_map.1 hcr
      exact ⟨rfl, rfl, measure_nonneg .., measure_ne_zero _ _ _, measure_zero_rate _ _ _⟩
    · -- a non-zero total has a non-zero group line, and that one a non-zero component line
      rw [report_component_measured] at hne
      obtain ⟨er, her, hm⟩ := exists_ne_zero_of_sum_map_ne_zero _ _ hne
      obtain ⟨ge, _, rfl⟩ := List.mem_map.1 her
      rw [eqgRepC_measured] at hm
      obtain ⟨cr, hcr, hcm⟩ := exists_ne_zero_of_sum_map_ne_zero _ _ hm
      obtain ⟨ce, _, rfl⟩ := List.mem_map.1 hcr
      exact ⟨_, her, _, hcr, hcm, measure_ne_zero _ _ _ hcm⟩
  | eqg layout =>
    have hU : ∀ er ∈ layout.map (eqgRepG vis mdl s),
        er.trueRate = rateEqg vis s er.eqg ∧ 0 ≤ er.measured ∧
        (er.measured ≠ 0 → mdl ≤ rateEqg vis s er.eqg) ∧
        (rateEqg vis s er.eqg = 0 → er.measured = 0) ∧ er.comps = [] := fun er her => by
      obtain ⟨ge, _, rfl⟩ := List.mem_map.1 her
      exact ⟨rfl, measure_nonneg .., measure_ne_zero _ _ _, measure_zero_rate _ _ _, rfl⟩
    refine ⟨?_, hU, fun hne => ?_, rfl⟩
    · rw [report_eqg_measured]; exact sum_map_nonneg _ _ fun er her => (hU er her).2.1
    rw [report_eqg_measured] at hne
    obtain ⟨er, her, hm⟩ := exists_ne_zero_of_sum_map_ne_zero _ _ hne
    exact ⟨er, her, hm, (hU er her).2.2.1 hm⟩
  | site err =>
    refine ⟨measure_nonneg .., rfl, measure_ne_zero _ _ _, measure_zero_rate _ _ _, rfl, ?_, ?_⟩
    · intro h
      simp only [report] at h
      split at h
      · assumption
      · exact absurd rfl h
    · intro i hi
      simp only [report] at hi
      split at hi
      · obtain ⟨e, he, rfl⟩ := List.mem_map.1 hi
        exact ⟨e, (List.mem_filter.1 he).1, rfl⟩
      · cases hi

/-- the emissions a report is computed from are exactly those the survey examined, found spatially
covered (stored outcome `true` afterwards), emitting, and with temporal roll 1 -/
theorem C05_contributors_are_visible (m s : Nat) (xs : List (Emis × Rolls)) (e : Emis)
    (h : e ∈ visList (detect m s xs)) :
    ∃ x ∈ xs, visible m s x = true ∧ e.id = x.1.id ∧ e.rate = x.1.rate ∧ covOf m e = some true := by
  obtain ⟨x, hx, hv, hid, hr, _, _, _, hc⟩ := mem_visList_detect m s xs e h
  exact ⟨x, hx, hv, hid, hr, hc⟩

/-- tag requests exist only at component scale and only for components whose *visible* rate
reaches the detection limit -/
theorem C05_tag_needs_visible_rate (cfg : Cfg) (mdl : Int) (s : Nat) (vis : List Emis) (g c : Nat)
    (h : (g, c) ∈ tagTargets (report cfg mdl s vis)) :
    (∃ layout, cfg = .component layout) ∧ mdl ≤ rateComp vis s g c := by
  have hs := C05_report_sound cfg mdl s vis
  unfold tagTargets at h
  simp only [List.mem_flatMap, List.mem_map, List.mem_filter, decide_eq_true_eq] at h
  obtain ⟨er, her, cr, ⟨hcr, hpos⟩, heq⟩ := h
  cases cfg with
  | component layout =>
    refine ⟨⟨layout, rfl⟩, ?_⟩
    obtain ⟨rfl, rfl⟩ := Prod.mk.inj heq
    exact ((hs.2.1 er her).2 cr hcr).2.2.2.1 (by omega)
  | eqg layout =>
    have h1 := (hs.2.1 er her).2.2.2.2
    rw [h1] at hcr; simp at hcr
  | site err =>
    have h1 := hs.2.2.2.2.1
    rw [h1] at her; simp at her

/-- a site enters the follow-up machinery only with a non-zero measured rate (for a positive instant
threshold, the default being none) -/
theorem C05_flag_needs_detection (inst : Option Int) (thr m : Int)
    (hi : ∀ i, inst = some i → 0 < i) (h : flagCandidate inst thr m = true) : m ≠ 0 := by
  unfold flagCandidate at h
  cases inst with
  | none => simp at h; exact h.1
  | some i =>
    have := hi i rfl
    simp at h
    omega

/-! ### frame: the report is a function of the visible emissions only -/

/-- replacing an invisible emission by any other invisible emission (or dropping it) changes
neither the report nor the tag requests nor the follow-up decision -/
theorem C05_frame (cfg : Cfg) (m : Nat) (mdl : Int) (s : Nat) (pre post : List (Emis × Rolls))
    (x x' : Emis × Rolls) (h : visible m s x = false) (h' : visible m s x' = false) :
    survey cfg m mdl s (pre ++ x :: post) = survey cfg m mdl s (pre ++ x' :: post) ∧
    survey cfg m mdl s (pre ++ x :: post) = survey cfg m mdl s (pre ++ post) ∧
    tagTargets (survey cfg m mdl s (pre ++ x :: post)) = tagTargets (survey cfg m mdl s (pre ++ x' :: post)) ∧
    (∀ inst thr, flagCandidate inst thr (survey cfg m mdl s (pre ++ x :: post)).measured
        = flagCandidate inst thr (survey cfg m mdl s (pre ++ x' :: post)).measured) := by
  have e1 : survey cfg m mdl s (pre ++ x :: post) = survey cfg m mdl s (pre ++ post) := by
    unfold survey; rw [visList_detect_invisible m s pre post x h]
  have e2 : survey cfg m mdl s (pre ++ x' :: post) = survey cfg m mdl s (pre ++ post) := by
    unfold survey; rw [visList_detect_invisible m s pre post x' h']
  refine ⟨by rw [e1, e2], e1, by rw [e1, e2], ?_⟩
  intro inst thr; rw [e1, e2]

/-- whatever is not visible is one of: not in an active list of the surveyed site, spatially
uncovered, not emitting, or missed by the temporal roll — and then it never contributes -/
theorem C05_invisible_cases (m s : Nat) (x : Emis × Rolls) :
    visible m s x = false ↔
      (x.1.active = false ∨ x.1.site ≠ s ∨ spatialOutcome m x.1 x.2 = false ∨ x.1.emitting = false
        ∨ x.2.temporal = false) := by
  simp only [visible, inScope, Bool.and_eq_false_iff, decide_eq_false_iff_not, or_assoc]

/-- a survey only ever changes the coverage store of an emission -/
theorem C05_survey_touches_coverage_only (m s : Nat) (x : Emis × Rolls) :
    (detectOne m s x).e = { x.1 with cov := (detectOne m s x).e.cov } :=
  detectOne_frame m s x

/-- after the first check the outcome is stored; every later check by the same method returns the
stored outcome whatever the roll would be, draws no roll and changes nothing; checks by other
methods do not disturb it -/
theorem C05_spatial_sticky (m : Nat) (e : Emis) (r : Rolls) :
    let e1 := (checkSpatialCov m r.spatial e).e
    covOf m e1 = some (spatialOutcome m e r) ∧
    (checkSpatialCov m r.spatial e).outcome = spatialOutcome m e r ∧
    (∀ roll', checkSpatialCov m roll' e1
        = { e := e1, outcome := spatialOutcome m e r, consumed := false }) ∧
    (∀ m' roll', m' ≠ m → covOf m (checkSpatialCov m' roll' e1).e = some (spatialOutcome m e r)) := by
  have h := checkSpatialCov_outcome m e r
  refine ⟨h.2, h.1, ?_, ?_⟩
  · intro roll'; exact checkSpatialCov_stored m roll' _ _ h.2
  · intro m' roll' hne; rw [checkSpatialCov_other m m' roll' _ hne]; exact h.2

/-- the same at survey level: an emission with a stored outcome `b` is treated with `b` by every
later survey of the method (whatever its activity / emitting state then is), without a spatial roll,
and keeps `b`; an examined emission has its outcome stored; a roll is drawn exactly when none is -/
theorem C05_spatial_sticky_survey (m s : Nat) (x : Emis × Rolls) :
    (∀ b, covOf m x.1 = some b →
        spatialOutcome m x.1 x.2 = b ∧ (detectOne m s x).sRoll = false ∧
        covOf m (detectOne m s x).e = some b) ∧
    (inScope s x.1 = true → covOf m (detectOne m s x).e = some (spatialOutcome m x.1 x.2) ∧
        (detectOne m s x).sRoll = (covOf m x.1).isNone) ∧
    (inScope s x.1 = false → detectOne m s x = { e := x.1, vis := false, sRoll := false, tRoll := false }) ∧
    (∀ m', m' ≠ m → covOf m (detectOne m' s x).e = covOf m x.1) := by
  refine ⟨fun b hb => ?_, detectOne_stores m s x, detectOne_out_of_scope m s x,
    fun m' h => detectOne_other m m' s x h⟩
  have hso := spatialOutcome_stored m x.1 x.2 b hb
  cases hs : inScope s x.1 with
  | true =>
    obtain ⟨h1, h2⟩ := detectOne_stores m s x hs
    exact ⟨hso, by rw [h2, hb]; rfl, by rw [h1, hso]⟩
  | false => rw [detectOne_out_of_scope m s x hs]; exact ⟨hso, rfl, hb⟩

/-! ### zero coverage / unreachable detection limit leave the emissions as in the baseline -/

/-- nothing happens: measured 0, no tag request, no detection record -/
def Quiet (rep : SiteRep) : Prop := rep.measured = 0 ∧ tagTargets rep = [] ∧ rep.recorded = []

private theorem quiet_of (cfg : Cfg) (mdl : Int) (s : Nat) (vis : List Emis)
    (H : ∀ (p : Emis → Bool) (err : Int), measure mdl err (sumRates (vis.filter p)) = 0)
    (H2 : mdl ≤ rateSite vis s → vis.filter (atSite s) = []) :
    Quiet (report cfg mdl s vis) := by
  unfold Quiet
  cases cfg with
  | component layout =>
    have hc : ∀ er ∈ layout.map (eqgRepC vis mdl s), ∀ cr ∈ er.comps, cr.measured = 0 := fun er her cr hcr => by
      obtain ⟨ge, _, rfl⟩ := List.mem_map.1 her
      obtain ⟨ce, _, rfl⟩ := List.mem_map.1 hcr
      exact H _ _
    refine ⟨?_, tagTargets_eq_nil _ hc, rfl⟩
    rw [report_component_measured]
    refine sum_map_eq_zero _ _ fun er her => ?_
    obtain ⟨ge, _, rfl⟩ := List.mem_map.1 her
    rw [eqgRepC_measured]
    exact sum_map_eq_zero _ _ (hc _ her)
  | eqg layout =>
    refine ⟨?_, tagTargets_eq_nil _ fun er her cr hcr => ?_, rfl⟩
    · rw [report_eqg_measured]
      refine sum_map_eq_zero _ _ fun er her => ?_
      obtain ⟨ge, _, rfl⟩ := List.mem_map.1 her
      exact H _ _
    · obtain ⟨ge, _, rfl⟩ := List.mem_map.1 her
      cases hcr
  | site err =>
    refine ⟨H _ _, tagTargets_eq_nil _ (fun _ her => nomatch her), ?_⟩
    simp only [report]
    split
    · rename_i h; rw [H2 h]; rfl
    · rfl

theorem C05_nothing_visible_is_quiet (cfg : Cfg) (m : Nat) (mdl : Int) (s : Nat)
    (xs : List (Emis × Rolls)) (h : ∀ x ∈ xs, visible m s x = false) :
    Quiet (survey cfg m mdl s xs) := by
  unfold survey
  rw [visList_detect_none m s xs h]
  apply quiet_of
  · intro p err; exact measure_zero_rate _ _ _ rfl
  · intro _; rfl

/-- every roll for the method is 0: no outcome `true` is stored and the fresh rolls are 0 -/
def ZeroCoverage (m : Nat) (xs : List (Emis × Rolls)) : Prop :=
  ∀ x ∈ xs, covOf m x.1 ≠ some true ∧ x.2.spatial = false

/-- the detection limit exceeds the total possible rate of the site (rates are non-negative) -/
def UnreachableMdl (mdl : Int) (xs : List (Emis × Rolls)) : Prop :=
  (∀ x ∈ xs, 0 ≤ x.1.rate) ∧ totalRate xs < mdl

private theorem spatialOutcome_of_zero (m : Nat) (x : Emis × Rolls)
    (h : covOf m x.1 ≠ some true ∧ x.2.spatial = false) : spatialOutcome m x.1 x.2 = false := by
  unfold spatialOutcome
  cases hc : covOf m x.1 with
  | none => exact h.2
  | some b => cases b with
    | false => rfl
    | true => exact absurd hc h.1

theorem C05_zero_coverage_is_quiet (cfg : Cfg) (m : Nat) (mdl : Int) (s : Nat)
    (xs : List (Emis × Rolls)) (h : ZeroCoverage m xs) : Quiet (survey cfg m mdl s xs) :=
  C05_nothing_visible_is_quiet cfg m mdl s xs fun x hx => by
    simp [visible, spatialOutcome_of_zero m x (h x hx)]

/-- zero rolls stay zero: after such a survey still no outcome `true` is stored for the method
(so the hypothesis of the next survey is re-established for the surviving emissions; new emissions
start with an empty store) -/
theorem C05_zero_coverage_invariant (m s : Nat) (x : Emis × Rolls)
    (h : covOf m x.1 ≠ some true ∧ x.2.spatial = false) :
    covOf m (detectOne m s x).e ≠ some true ∧
    (∀ m', m' ≠ m → covOf m (detectOne m' s x).e ≠ some true) := by
  refine ⟨?_, fun m' hne => by rw [detectOne_other m m' s x hne]; exact h.1⟩
  cases hs : inScope s x.1 with
  | true => rw [(detectOne_stores m s x hs).1, spatialOutcome_of_zero m x h]; simp
  | false => rw [detectOne_out_of_scope m s x hs]; exact h.1

theorem C05_unreachable_mdl_is_quiet (cfg : Cfg) (m : Nat) (mdl : Int) (s : Nat)
    (xs : List (Emis × Rolls)) (h : UnreachableMdl mdl xs) : Quiet (survey cfg m mdl s xs) := by
  unfold survey
  have hb : ∀ p : Emis → Bool, sumRates ((visList (detect m s xs)).filter p) < mdl := by
    intro p
    have := rate_filter_le_total p m s xs h.1
    have := h.2
    omega
  apply quiet_of
  · intro p err; exact measure_below _ _ _ (hb p)
  · intro hge
    have := hb (atSite s)
    unfold rateSite at hge
    omega

private theorem dayEvents_nil_of_quiet (svs : List SurveyIn) (s g c : Nat)
    (h : ∀ sv ∈ svs, Quiet (surveyOf sv)) : dayEvents svs s g c = [] := by
  unfold dayEvents
  simp only [List.flatMap_eq_nil_iff]
  intro sv hsv
  unfold tagEvents
  rw [(h sv hsv).2.1]
  simp

private theorem run_eq_baseline_of_no_events (p : Emission.Params) (ev : Nat → List Emission.TagEv)
    (h : ∀ d, ev d = []) (N : Nat) : Emission.run p ev N = Emission.baseline p N := by
  induction N with
  | zero => rfl
  | succ n ih =>
    show Emission.day p n (ev n) (Emission.run p ev n) = Emission.day p n (Emission.noEvents n) (Emission.run p Emission.noEvents n)
    rw [ih, h n]; rfl

private theorem baseline_of_quiet (sched : Nat → List SurveyIn) (hq : ∀ d, ∀ sv ∈ sched d, Quiet (surveyOf sv)) :
    (∀ d, ∀ sv ∈ sched d, Quiet (surveyOf sv) ∧
        ∀ inst thr, (∀ i, inst = some i → 0 < i) → flagCandidate inst thr (surveyOf sv).measured = false) ∧
    ∀ (p : Emission.Params) (s g c N : Nat),
      Emission.run p (fun d => dayEvents (sched d) s g c) N = Emission.baseline p N :=
  ⟨fun d sv hsv => ⟨hq d sv hsv, fun inst thr hi =>
      Bool.eq_false_iff.2 fun hf => C05_flag_needs_detection inst thr _ hi hf (hq d sv hsv).1⟩,
   fun p s g c N =>
    run_eq_baseline_of_no_events p _ (fun d => dayEvents_nil_of_quiet (sched d) s g c (hq d)) N⟩

/-- **zero coverage is the baseline.**  If in every survey of the program every spatial roll of the
surveying method is 0, then no survey produces a measured rate, a tag request, a detection record or
a follow-up candidate, and the run of *every* emission (any parameters, any component) under the
program's tag events equals its no-LDAR run field by field, for every horizon. -/
theorem C05_zero_coverage_is_baseline (sched : Nat → List SurveyIn)
    (h : ∀ d, ∀ sv ∈ sched d, ZeroCoverage sv.m sv.xs) :
    (∀ d, ∀ sv ∈ sched d, Quiet (surveyOf sv) ∧
        ∀ inst thr, (∀ i, inst = some i → 0 < i) → flagCandidate inst thr (surveyOf sv).measured = false) ∧
    ∀ (p : Emission.Params) (s g c N : Nat),
      Emission.run p (fun d => dayEvents (sched d) s g c) N = Emission.baseline p N :=
  baseline_of_quiet sched fun d sv hsv => C05_zero_coverage_is_quiet sv.cfg sv.m sv.mdl sv.site sv.xs (h d sv hsv)

/-- **an unreachable detection limit is the baseline.**  The same conclusion if in every survey the
detection limit exceeds the total rate of everything at the surveyed site. -/
theorem C05_unreachable_mdl_is_baseline (sched : Nat → List SurveyIn)
    (h : ∀ d, ∀ sv ∈ sched d, UnreachableMdl sv.mdl sv.xs) :
    (∀ d, ∀ sv ∈ sched d, Quiet (surveyOf sv) ∧
        ∀ inst thr, (∀ i, inst = some i → 0 < i) → flagCandidate inst thr (surveyOf sv).measured = false) ∧
    ∀ (p : Emission.Params) (s g c N : Nat),
      Emission.run p (fun d => dayEvents (sched d) s g c) N = Emission.baseline p N :=
  baseline_of_quiet sched fun d sv hsv => C05_unreachable_mdl_is_quiet sv.cfg sv.m sv.mdl sv.site sv.xs (h d sv hsv)

/-! ### the same over mixed events (`runE`): also the "initially detected" fields stay as in the baseline -/

private theorem dayEventsE_nil_of_quiet (svs : List SurveyIn) (s g c id : Nat)
    (h : ∀ sv ∈ svs, Quiet (surveyOf sv)) : dayEventsE svs s g c id = [] := by
  unfold dayEventsE
  simp only [List.flatMap_eq_nil_iff]
  intro sv hsv
  unfold surveyEventsE tagEvents
  rw [(h sv hsv).2.1, (h sv hsv).2.2]
  simp

private theorem baselineE_of_quiet (sched : Nat → List SurveyIn) (hq : ∀ d, ∀ sv ∈ sched d, Quiet (surveyOf sv))
    (p : Emission.Params) (s g c id N : Nat) :
    Emission.runE p (fun d => dayEventsE (sched d) s g c id) N = Emission.baseline p N :=
  Emission.runE_eq_baseline_of_no_events p _ (fun d => dayEventsE_nil_of_quiet (sched d) s g c id (hq d)) N

/-- zero coverage / unreachable limit, over tag requests *and* the detection-only records of
site-scale sensors: the complete state of every emission (including `initDetect`, `initDetectBy`)
after any number of days equals its no-LDAR state. -/
theorem C05_zero_coverage_is_baseline_E (sched : Nat → List SurveyIn)
    (h : ∀ d, ∀ sv ∈ sched d, ZeroCoverage sv.m sv.xs) (p : Emission.Params) (s g c id N : Nat) :
    Emission.runE p (fun d => dayEventsE (sched d) s g c id) N = Emission.baseline p N :=
  baselineE_of_quiet sched (fun d sv hsv => C05_zero_coverage_is_quiet sv.cfg sv.m sv.mdl sv.site sv.xs (h d sv hsv))
    p s g c id N

theorem C05_unreachable_mdl_is_baseline_E (sched : Nat → List SurveyIn)
    (h : ∀ d, ∀ sv ∈ sched d, UnreachableMdl sv.mdl sv.xs) (p : Emission.Params) (s g c id N : Nat) :
    Emission.runE p (fun d => dayEventsE (sched d) s g c id) N = Emission.baseline p N :=
  baselineE_of_quiet sched (fun d sv hsv => C05_unreachable_mdl_is_quiet sv.cfg sv.m sv.mdl sv.site sv.xs (h d sv hsv))
    p s g c id N

/-! ### the spatial outcome over the whole life of an emission -/

/-- whatever happens to an emission after an outcome `b` for method `m` has been stored — surveys by
`m` or by other methods at any site with any rolls, activation, tagging, daily updates, intermittency
toggles, repair, expiry (all of which only move it between lists / switch it on and off) — the stored
outcome stays `b`, and no later survey by `m` draws a spatial roll for it. -/
theorem C05_sticky_whole_life (m : Nat) (b : Bool) (steps : List LifeStep) (e : Emis)
    (h : covOf m e = some b) :
    covOf m (life e steps) = some b ∧
    ∀ s r, (detectOne m s (life e steps, r)).sRoll = false ∧ spatialOutcome m (life e steps) r = b := by
  have key : covOf m (life e steps) = some b := by
    induction steps generalizing e with
    | nil => exact h
    | cons st steps ih =>
      apply ih
      cases st with
      | survey m' s r =>
        by_cases hm : m' = m
        · subst hm
          exact ((C05_spatial_sticky_survey m' s (e, r)).1 b h).2.2
        · show covOf m (detectOne m' s (e, r)).e = some b
          rw [detectOne_other m m' s (e, r) hm]; exact h
      | world a em => exact h
  refine ⟨key, ?_⟩
  intro s r
  have := (C05_spatial_sticky_survey m s (life e steps, r)).1 b key
  exact ⟨this.2.1, this.1⟩

/-- the outcome of an emission is its own roll.  What a survey observes for one emission — visible or
not, which rolls are drawn, the outcome stored for it afterwards — is a function of that emission and
its own rolls only, whatever other emissions (with whatever ids, coverage probabilities, rolls) are
examined before or after it in the same survey; and with nothing stored before, the outcome stored is
exactly the spatial roll drawn for this emission (so with probability 0 it is `false`, with 1 `true`). -/
theorem C05_outcome_is_own_roll (m s : Nat) (pre post : List (Emis × Rolls)) (x : Emis × Rolls) :
    (detect m s (pre ++ x :: post))[pre.length]? = some (detectOne m s x) ∧
    (after m s (pre ++ x :: post))[pre.length]? = some (detectOne m s x).e ∧
    (inScope s x.1 = true → covOf m x.1 = none →
        covOf m (detectOne m s x).e = some x.2.spatial ∧ (detectOne m s x).sRoll = true) := by
  refine ⟨?_, ?_, ?_⟩
  · simp [detect]
  · simp [after, detect]
  · intro hs hn
    have h := detectOne_stores m s x hs
    have hso : spatialOutcome m x.1 x.2 = x.2.spatial := by unfold spatialOutcome; simp [hn]
    rw [hso] at h
    exact ⟨h.1, by rw [h.2, hn]; rfl⟩

/-! ### the "flags" clause

Full strength: a site enters the follow-up machinery only with a non-zero measured rate.  It holds
under positive thresholds and is **false of the code** for an instant threshold ≤ 0 (mobile) and for
a small-window threshold ≤ 0 (stationary; 0.0 is the shipped default): known findings
`C05-flag-zero-measured-instant-threshold`, `C05-flag-zero-measured-stationary`. -/

def C05_flag_statement : Prop :=
  (∀ (inst : Option Int) (thr m : Int), flagCandidate inst thr m = true → m ≠ 0) ∧
  (∀ (smallThr m : Int), flagStationaryFresh smallThr m = true → m ≠ 0)

/-- stationary, first record of a site: with a positive small-window threshold the site is not
queued (whatever was measured) -/
theorem C05_flag_needs_detection_stationary (smallThr m : Int) (h : 0 < smallThr) :
    flagStationaryFresh smallThr m = false := by
  unfold flagStationaryFresh; simp; omega

theorem C05_flag_partial :
    (∀ (inst : Option Int) (thr m : Int), (∀ i, inst = some i → 0 < i) →
        flagCandidate inst thr m = true → m ≠ 0) ∧
    (∀ (smallThr m : Int), 0 < smallThr → flagStationaryFresh smallThr m = true → m ≠ 0) := by
  refine ⟨fun inst thr m hi h => C05_flag_needs_detection inst thr m hi h, ?_⟩
  intro smallThr m h hf
  rw [C05_flag_needs_detection_stationary smallThr m h] at hf
  exact absurd hf (by decide)

/-- witnesses: instant threshold 0 queues a site with measured rate 0 (ordinary threshold 5);
a stationary method with small-window threshold 0 queues a site on its first record, measured 0 -/
theorem C05_flag_counterexample : ¬ C05_flag_statement ∧
    flagCandidate (some 0) 5 0 = true ∧ flagStationaryFresh 0 0 = true := by
  refine ⟨?_, by decide, by decide⟩
  intro h
  exact h.1 (some 0) 5 0 (by decide) rfl

def C05_statement : Prop :=
  -- measured rates: never negative, non-zero only at or above the limit, zero when nothing is seen
  (∀ mdl err r : Int, 0 ≤ measure mdl err r ∧ (measure mdl err r ≠ 0 → mdl ≤ r) ∧
      (r < mdl → measure mdl err r = 0) ∧ (r = 0 → measure mdl err r = 0)) ∧
  -- at its scale a survey reports (and tags) from the summed rate of the emissions it can see
  (∀ (cfg : Cfg) (m : Nat) (mdl : Int) (s : Nat) (xs : List (Emis × Rolls)),
      ReportSound cfg mdl s (visList (detect m s xs)) (survey cfg m mdl s xs) ∧
      (∀ e ∈ visList (detect m s xs), ∃ x ∈ xs, visible m s x = true ∧ e.id = x.1.id ∧ e.rate = x.1.rate
          ∧ covOf m e = some true) ∧
      (∀ g c, (g, c) ∈ tagTargets (survey cfg m mdl s xs) →
          mdl ≤ rateComp (visList (detect m s xs)) s g c)) ∧
  -- emissions outside the coverage / not emitting never contribute
  (∀ (cfg : Cfg) (m : Nat) (mdl : Int) (s : Nat) (pre post : List (Emis × Rolls)) (x x' : Emis × Rolls),
      visible m s x = false → visible m s x' = false →
      survey cfg m mdl s (pre ++ x :: post) = survey cfg m mdl s (pre ++ x' :: post) ∧
      survey cfg m mdl s (pre ++ x :: post) = survey cfg m mdl s (pre ++ post)) ∧
  -- the spatial outcome of an emission for a method is fixed for its whole life
  (∀ (m : Nat) (e : Emis) (r : Rolls) (roll' : Bool),
      checkSpatialCov m roll' (checkSpatialCov m r.spatial e).e =
        { e := (checkSpatialCov m r.spatial e).e, outcome := (checkSpatialCov m r.spatial e).outcome,
          consumed := false }) ∧
  -- zero coverage / unreachable limit: the program leaves every emission as the baseline does
  (∀ (sched : Nat → List SurveyIn),
      ((∀ d, ∀ sv ∈ sched d, ZeroCoverage sv.m sv.xs) ∨ (∀ d, ∀ sv ∈ sched d, UnreachableMdl sv.mdl sv.xs)) →
      (∀ d, ∀ sv ∈ sched d, Quiet (surveyOf sv)) ∧
      ∀ (p : Emission.Params) (s g c N : Nat),
        Emission.run p (fun d => dayEvents (sched d) s g c) N = Emission.baseline p N)

theorem C05 : C05_statement := by
  refine ⟨?_, ?_, ?_, ?_, ?_⟩
  · intro mdl err r
    exact ⟨C05_measured_nonneg mdl err r, C05_measured_ne_zero mdl err r, (C05_measured_zero mdl err r).1,
      (C05_measured_zero mdl err r).2⟩
  · intro cfg m mdl s xs
    refine ⟨C05_report_sound cfg mdl s _, ?_, ?_⟩
    · intro e he; exact C05_contributors_are_visible m s xs e he
    · intro g c h; exact (C05_tag_needs_visible_rate cfg mdl s _ g c h).2
  · intro cfg m mdl s pre post x x' h h'
    have := C05_frame cfg m mdl s pre post x x' h h'
    exact ⟨this.1, this.2.1⟩
  · intro m e r roll'
    have h := C05_spatial_sticky m e r
    simp only at h
    rw [h.2.2.1 roll', h.2.1]
  · intro sched h
    cases h with
    | inl h => have := C05_zero_coverage_is_baseline sched h; exact ⟨fun d sv hsv => (this.1 d sv hsv).1, this.2⟩
    | inr h => have := C05_unreachable_mdl_is_baseline sched h; exact ⟨fun d sv hsv => (this.1 d sv hsv).1, this.2⟩

/-- a site with two groups; method 7, MDL 8 units.  Emission 1 (rate 16) is covered and visible,
emission 2 (rate 32) was rolled out of coverage earlier, emission 3 (rate 64) is intermittent and
off, emission 4 (rate 4, fresh) is covered but below the limit in its own component, emission 5
(rate 128) belongs to another site.  Component scale with shift −25 %: only component (1,1) is
measured (16·75 = 1200 hundredths) and tagged; group scale sees 20 in group 1. -/
private def exXs : List (Emis × Rolls) :=
  [ ({ id := 1, site := 3, eqg := 1, comp := 1, rate := 16, active := true, emitting := true, cov := [] }, ⟨true, true⟩),
    ({ id := 2, site := 3, eqg := 1, comp := 1, rate := 32, active := true, emitting := true, cov := [(7, false)] }, ⟨true, true⟩),
    ({ id := 3, site := 3, eqg := 1, comp := 2, rate := 64, active := true, emitting := false, cov := [] }, ⟨true, true⟩),
    ({ id := 4, site := 3, eqg := 1, comp := 2, rate := 4, active := true, emitting := true, cov := [] }, ⟨true, true⟩),
    ({ id := 5, site := 4, eqg := 1, comp := 1, rate := 128, active := true, emitting := true, cov := [] }, ⟨true, true⟩) ]

example :
    (visList (detect 7 3 exXs)).map (·.id) = [1, 4] ∧
    (survey (.component [(1, [(1, -25), (2, 0)]), (2, [(1, 0)])]) 7 8 3 exXs).measured = 1200 ∧
    tagTargets (survey (.component [(1, [(1, -25), (2, 0)]), (2, [(1, 0)])]) 7 8 3 exXs) = [(1, 1)] ∧
    ((survey (.eqg [(1, 50), (2, 0)]) 7 8 3 exXs).eqgs.map (fun e => (e.trueRate, e.measured))) = [(20, 3000), (0, 0)] ∧
    (survey (.site (-125)) 7 8 3 exXs).measured = 0 ∧ (survey (.site (-125)) 7 8 3 exXs).recorded = [1, 4] ∧
    (after 7 3 exXs).map (fun e => covOf 7 e) = [some true, some false, some true, some true, none] ∧
    ¬ ZeroCoverage 7 exXs ∧ ¬ UnreachableMdl 8 exXs := by
  refine ⟨by decide, by decide, by decide, by decide, by decide, by decide, by decide, ?_, ?_⟩
  · intro h; have := (h _ (List.mem_cons_self)).2; revert this; decide
  · intro h; have := h.2; revert this; decide

/-- the hypotheses of the two baseline theorems are satisfiable by non-trivial surveys: all rolls 0
with emitting, above-limit emissions present; and a limit above the total rate 244 -/
example : ZeroCoverage 7 (exXs.map (fun x => ({ x.1 with cov := [] }, { x.2 with spatial := false }))) := by
  intro x hx
  simp only [exXs, List.map_cons, List.map_nil, List.mem_cons, List.not_mem_nil, or_false] at hx
  rcases hx with h | h | h | h | h <;> subst h <;> decide

example : UnreachableMdl 245 exXs ∧ totalRate exXs = 244 := by
  refine ⟨⟨?_, by decide⟩, by decide⟩
  intro x hx
  simp only [exXs, List.mem_cons, List.not_mem_nil, or_false] at hx
  rcases hx with h | h | h | h | h <;> subst h <;> decide

end LdarModel.Sensor
