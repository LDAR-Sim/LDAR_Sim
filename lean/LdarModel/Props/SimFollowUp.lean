import LdarModel.Props.Sim
import LdarModel.Props.C09
/-
C09 lifted to the integrated simulation model (`Model/Sim.lean`).

For the follow-up method at program position `fu`, `sysOf` collects what `FollowUp.Sys` is made of: the
screening states (candidate pool, detection records, flag events …) of the screening methods bound to
`fu`, in program order, and the follow-up schedule of `fu` carrying the sites' latest tagging survey
dates.  `postStep_sys` shows (`Reaches`) that the step of *any* method of the program changes this system by a list
of `FollowUp.Op`s — tagging surveys (`tag`) for routine methods and other follow-up methods, `screen …`
+ `update` for a screening method bound to `fu`, `fuDay` for `fu` itself, nothing for screening methods
bound elsewhere — and that the dates of these operations never go backwards.  Hence the system after
`N` days is a `FollowUp.runSys` state (`sim_followup_runSys`; `run1` for one screening method), and the
theorems of C09 are read off it.
-/
namespace LdarModel.Sim
open LdarModel FollowUp

theorem withTag_withTag (sh : Shared) (a b : Nat → Int) : withTag (withTag sh a) b = withTag sh b := rfl
theorem withTag_latestTag (sh : Shared) (a : Nat → Int) : (withTag sh a).latestTag = a := rfl
theorem withTag_self (sh : Shared) (a : Nat → Int) (h : sh.latestTag = a) : withTag sh a = sh := by
  subst h; rfl

/-- a follow-up day moves the latest tagging survey dates as tagging surveys of that day would -/
theorem followUpDay_latestTag (cap : Nat) (d : Int) (outs : Nat → Outcome) (sh : Shared) :
    ∃ l : List Nat, (followUpDay cap d outs sh).latestTag = l.foldl (fun f s => setI f s d) sh.latestTag := by
  unfold followUpDay
  refine foldl_inv (P := fun sh' : Shared =>
      ∃ l : List Nat, sh'.latestTag = l.foldl (fun f s => setI f s d) sh.latestTag)
    (fun sh' pl _ ⟨l, hl⟩ => ?_) ⟨[], rfl⟩
  unfold applyOutcome
  simp only []
  split
  · exact ⟨l ++ [pl.site], by rw [List.foldl_append, ← hl]; rfl⟩
  · exact ⟨l, hl⟩
  · exact ⟨l, hl⟩

def tagOps (l : List Nat) (d : Int) : List FollowUp.Op := l.map (fun s => FollowUp.Op.tag s d)

theorem foldl_tagOps (ps : List FollowUp.Params) (cap : Nat) (d : Int) (l : List Nat) (sy : Sys) :
    (tagOps l d).foldl (stepSys ps cap) sy =
      { sy with sh := withTag sy.sh (l.foldl (fun f s => setI f s d) sy.sh.latestTag) } := by
  induction l generalizing sy with
  | nil => rfl
  | cons s l ih =>
    simp only [tagOps, List.map_cons, List.foldl_cons] at ih ⊢
    rw [ih]
    rfl

theorem wellDated_nil (ps : List FollowUp.Params) (cap : Nat) (sy : Sys) : wellDatedSys ps cap sy [] = true := rfl

theorem wellDatedSys_append (ps : List FollowUp.Params) (cap : Nat) (a b : List FollowUp.Op) (sy : Sys) :
    wellDatedSys ps cap sy (a ++ b) = (wellDatedSys ps cap sy a && wellDatedSys ps cap (a.foldl (stepSys ps cap) sy) b) := by
  induction a generalizing sy with
  | nil => simp [wellDatedSys]
  | cons op a ih =>
    simp only [List.cons_append, wellDatedSys, List.foldl_cons, ih, Bool.and_assoc]

theorem wellDatedSys_tagOps (ps : List FollowUp.Params) (cap : Nat) (d : Int) (l : List Nat) (sy : Sys) :
    wellDatedSys ps cap sy (tagOps l d) = true := by
  induction l generalizing sy with
  | nil => rfl
  | cons s l ih =>
    simp only [tagOps, List.map_cons, wellDatedSys, Bool.true_and] at ih ⊢
    exact ih _

def screenOps (j : Nat) (n : Nat) (dones : List Done) : List FollowUp.Op :=
  dones.map (fun d => FollowUp.Op.screen j d.sv.site ((d.rep.measured : Int) : Rat) (n : Int))

theorem foldl_screenOps (ps : List FollowUp.Params) (cap : Nat) (j n : Nat) (dones : List Done) (sy : Sys)
    (m : MState) (hm : sy.ms[j]? = some m) :
    (screenOps j n dones).foldl (stepSys ps cap) sy =
      { sy with ms := sy.ms.set j (dones.foldl (fun s d => FollowUp.screen (recOfDone n d) s) m) } := by
  induction dones generalizing sy m with
  | nil =>
    obtain ⟨hl, rfl⟩ := List.getElem?_eq_some_iff.1 hm
    simp [screenOps]
  | cons d dones ih =>
    simp only [screenOps, List.map_cons, List.foldl_cons] at ih ⊢
    have hl : j < sy.ms.length := (List.getElem?_eq_some_iff.1 hm).1
    have hstep : stepSys ps cap sy (FollowUp.Op.screen j d.sv.site ((d.rep.measured : Int) : Rat) (n : Int)) =
        { sy with ms := sy.ms.set j (FollowUp.screen (recOfDone n d) m) } := by
      simp only [stepSys, hm]
      rfl
    rw [hstep, ih _ (FollowUp.screen (recOfDone n d) m) (by simp [hl])]
    simp [List.set_set]

theorem wellDatedSys_screenOps (ps : List FollowUp.Params) (cap : Nat) (j n : Nat) (dones : List Done) (sy : Sys) :
    wellDatedSys ps cap sy (screenOps j n dones) = true := by
  induction dones generalizing sy with
  | nil => rfl
  | cons d dones ih =>
    simp only [screenOps, List.map_cons, wellDatedSys, Bool.true_and] at ih ⊢
    exact ih _

theorem foldl_screen_today (n : Nat) (dones : List Done) (m : MState) :
    (dones.foldl (fun s d => FollowUp.screen (recOfDone n d) s) m).today = m.today :=
  foldl_inv (P := fun s : MState => s.today = m.today)
    (f := fun s d => FollowUp.screen (recOfDone n d) s) (fun _ _ _ h => h) rfl

/-! ### the screening methods bound to one follow-up method, and the `Sys` state they form -/

/-- program positions (from `m0`) and configurations of the screening methods bound to position `fu` -/
def screeners (fu : Nat) : Nat → List MethodCfg → List (Nat × MethodCfg)
  | _, [] => []
  | m0, c :: cs =>
    if c.role = .screen fu then (m0, c) :: screeners fu (m0 + 1) cs else screeners fu (m0 + 1) cs

theorem mem_screeners {fu : Nat} {x : Nat × MethodCfg} : ∀ {cs : List MethodCfg} {m0 : Nat},
    x ∈ screeners fu m0 cs ↔ m0 ≤ x.1 ∧ cs[x.1 - m0]? = some x.2 ∧ x.2.role = .screen fu
  | [], _ => by simp [screeners]
  | c :: cs, m0 => by
    have tail : x ∈ screeners fu (m0 + 1) cs ↔
        m0 < x.1 ∧ (c :: cs)[x.1 - m0]? = some x.2 ∧ x.2.role = .screen fu := by
      rw [mem_screeners]
      refine and_congr_right fun h => ?_
      rw [show x.1 - m0 = (x.1 - (m0 + 1)) + 1 by omega, List.getElem?_cons_succ]
    have head : x = (m0, c) ∧ c.role = .screen fu ↔
        m0 = x.1 ∧ (c :: cs)[x.1 - m0]? = some x.2 ∧ x.2.role = .screen fu := by
      constructor
      · rintro ⟨rfl, hc⟩; exact ⟨rfl, by simp, hc⟩
      · rintro ⟨h1, h2, h3⟩
        rw [← h1, Nat.sub_self, List.getElem?_cons_zero] at h2
        obtain rfl := Option.some.inj h2
        exact ⟨Prod.ext h1.symm rfl, h3⟩
    rw [Nat.le_iff_lt_or_eq, or_and_right, ← tail, ← head, screeners]
    split
    · next hc => simp [hc, or_comm]
    · next hc => simp [hc]

theorem screeners_pairwise (fu : Nat) : ∀ (cs : List MethodCfg) (m0 : Nat),
    (screeners fu m0 cs).Pairwise (fun a b => a.1 ≠ b.1) := by
  intro cs
  induction cs with
  | nil => intro m0; exact List.Pairwise.nil
  | cons c cs ih =>
    intro m0
    simp only [screeners]
    split
    · refine List.Pairwise.cons ?_ (ih (m0 + 1))
      intro b hb
      have := (mem_screeners.mp hb).1
      simp only; omega
    · exact ih (m0 + 1)

theorem map_set_of_unique {α β} (key : α → Nat) (f f' : α → β) (L : List α) (j : Nat) (a : α)
    (hp : L.Pairwise (fun x y => key x ≠ key y)) (hj : L[j]? = some a)
    (hag : ∀ b ∈ L, key b ≠ key a → f' b = f b) : L.map f' = (L.map f).set j (f' a) := by
  obtain ⟨hjl, rfl⟩ := List.getElem?_eq_some_iff.1 hj
  refine List.ext_getElem (by simp) fun i h1 _ => ?_
  have hi : i < L.length := by simpa using h1
  rw [List.getElem_set, List.getElem_map, List.getElem_map]
  split
  · subst_vars; rfl
  · next hne =>
    refine hag _ (List.getElem_mem hi) ?_
    rcases Nat.lt_or_gt_of_ne hne with h | h
    · exact (List.pairwise_iff_getElem.1 hp j i hjl hi h).symm
    · exact List.pairwise_iff_getElem.1 hp i j hi hjl h

theorem map_eq_of_no_key {α β} (key : α → Nat) (f f' : α → β) (L : List α) (k : Nat)
    (hk : ∀ b ∈ L, key b ≠ k) (hag : ∀ b ∈ L, key b ≠ k → f' b = f b) : L.map f' = L.map f :=
  List.map_congr_left (fun b hb => hag b hb (hk b hb))

/-- the parameters of the screening methods bound to `fu`, in program order -/
def psOf (fu : Nat) (prog : Program) : List FollowUp.Params := (screeners fu 0 prog).map (·.2.fup)

def scrList (fu : Nat) (prog : Program) (ms : List MethSt) : List MState :=
  (screeners fu 0 prog).map (fun kc => (ms.getD kc.1 {}).scr)

/-- the `FollowUp.Sys` formed by the follow-up method at position `fu` and the screening methods bound
to it: their candidate pools / records, and the follow-up schedule with the sites' latest tagging
survey dates -/
def sysOf (fu : Nat) (prog : Program) (ms : List MethSt) (lt : Nat → Int) : Sys :=
  { ms := scrList fu prog ms, sh := withTag (ms.getD fu {}).sh lt }

/-! ### what one method's step does to the screening / follow-up state of every position -/

/-- the screening state a site-level method hands to its `update` -/
def scrIn (n : Nat) (dones : List Done) (me : MethSt) : MState :=
  dones.foldl (fun s d => FollowUp.screen (recOfDone n d) s) me.scr

/-- `SiteLevelMethod.update` of the method at position `k` bound to position `fu'` -/
def screenUpd (c : MethodCfg) (n k fu' : Nat) (ms : List MethSt) (lt : Nat → Int) (dones : List Done) : FollowUp.St :=
  FollowUp.dailyUpdate c.fup (n : Int) { m := scrIn n dones (ms.getD k {}), sh := withTag (ms.getD fu' {}).sh lt }

theorem postStep_routine (c : MethodCfg) (inp : Inputs) (n k : Nat) (ms : List MethSt) (lt : Nat → Int)
    (pd : PlanDay) (dones : List Done) (hr : c.role = .routine) (x : Nat) :
    ((postStep c inp n k ms lt pd dones).ms.getD x {}).scr = (ms.getD x {}).scr ∧
    ((postStep c inp n k ms lt pd dones).ms.getD x {}).sh = (ms.getD x {}).sh ∧
    (postStep c inp n k ms lt pd dones).latestTag = dones.foldl (fun f d => FollowUp.setI f d.sv.site (n : Int)) lt := by
  simp only [postStep, hr, getD_set]
  by_cases h : k = x ∧ k < ms.length
  · obtain ⟨rfl, _⟩ := h
    simp [*]
  · simp [h]

theorem postStep_followUp (c : MethodCfg) (inp : Inputs) (n k : Nat) (ms : List MethSt) (lt : Nat → Int)
    (pd : PlanDay) (dones : List Done) (hr : c.role = .followUp) (hk : k < ms.length) :
    ∃ outs, ∀ x, ((postStep c inp n k ms lt pd dones).ms.getD x {}).scr = (ms.getD x {}).scr ∧
    ((postStep c inp n k ms lt pd dones).ms.getD x {}).sh =
      (if k = x then FollowUp.followUpDay (c.crews * c.cap) (n : Int) outs (withTag (ms.getD k {}).sh lt)
       else (ms.getD x {}).sh) ∧
    (postStep c inp n k ms lt pd dones).latestTag =
      (FollowUp.followUpDay (c.crews * c.cap) (n : Int) outs (withTag (ms.getD k {}).sh lt)).latestTag := by
  refine ⟨fun i => match outOf pd.dd i with | some o => fuOutcomeOf o | none => .unattended, fun x => ?_⟩
  simp only [postStep, hr, getD_set]
  by_cases h : k = x
  · subst h
    simp [hk]
    exact ⟨rfl, rfl⟩
  · simp [h]
    rfl

theorem postStep_screen (c : MethodCfg) (inp : Inputs) (n k : Nat) (ms : List MethSt) (lt : Nat → Int)
    (pd : PlanDay) (dones : List Done) (fu' : Nat) (hr : c.role = .screen fu') (hk : k < ms.length) (x : Nat) :
    ((postStep c inp n k ms lt pd dones).ms.getD x {}).scr =
      (if k = x then (screenUpd c n k fu' ms lt dones).m else (ms.getD x {}).scr) ∧
    ((postStep c inp n k ms lt pd dones).ms.getD x {}).sh =
      (if fu' = x ∧ fu' < ms.length then (screenUpd c n k fu' ms lt dones).sh else (ms.getD x {}).sh) ∧
    (postStep c inp n k ms lt pd dones).latestTag = lt := by
  simp only [postStep, hr, getD_set, List.length_set, screenUpd, scrIn]
  by_cases h1 : k = x
  · subst h1
    by_cases h5 : fu' = k
    · subst h5; simp [hk]
    · have h5' : ¬ k = fu' := fun h => h5 h.symm
      simp [hk, h5, h5']
  · by_cases h3 : fu' = x
    · subst h3
      by_cases h4 : fu' < ms.length <;> simp [h1, hk, h4]
    · simp [h1, h3]

/-! ### one method's step, seen from the follow-up system of position `fu` -/

/-- no screening state of the system was updated after day `n` -/
def Dated (n : Nat) (sy : Sys) : Prop := ∀ m ∈ sy.ms, m.today ≤ (n : Int)

/-- `b` is the system `a` after a list of operations whose dates never go backwards, and no screening
state of `b` was updated after day `n` -/
def Reaches (ps : List FollowUp.Params) (cap n : Nat) (a b : Sys) : Prop :=
  ∃ ops : List FollowUp.Op, b = ops.foldl (stepSys ps cap) a ∧ wellDatedSys ps cap a ops = true ∧ Dated n b

theorem Reaches.refl {ps : List FollowUp.Params} {cap n : Nat} {a : Sys} (h : Dated n a) :
    Reaches ps cap n a a := ⟨[], rfl, rfl, h⟩

theorem Reaches.dated {ps : List FollowUp.Params} {cap n : Nat} {a b : Sys} (h : Reaches ps cap n a b) :
    Dated n b :=
  let ⟨_, _, _, hd⟩ := h
  hd

theorem Reaches.trans {ps : List FollowUp.Params} {cap n n' : Nat} {a b c : Sys}
    (h1 : Reaches ps cap n a b) (h2 : Reaches ps cap n' b c) : Reaches ps cap n' a c := by
  obtain ⟨o1, rfl, w1, _⟩ := h1
  obtain ⟨o2, rfl, w2, d2⟩ := h2
  exact ⟨o1 ++ o2, by rw [List.foldl_append], by rw [wellDatedSys_append, w1, w2]; rfl, d2⟩

theorem scrList_congr (fu : Nat) (prog : Program) (ms ms' : List MethSt)
    (h : ∀ x, (ms'.getD x {}).scr = (ms.getD x {}).scr) : scrList fu prog ms' = scrList fu prog ms := by
  unfold scrList
  apply List.map_congr_left
  intro kc _
  exact h kc.1

/-- a step that leaves the screening states of the system alone amounts to operations on the shared
schedule -/
theorem sysOf_shared_step {fu : Nat} {prog : Program} {ms ms' : List MethSt} {lt lt' : Nat → Int} {n : Nat}
    {ps : List FollowUp.Params} {cap : Nat} (ops : List FollowUp.Op)
    (hscr : scrList fu prog ms' = scrList fu prog ms)
    (hops : ops.foldl (stepSys ps cap) (sysOf fu prog ms lt) =
      ⟨(sysOf fu prog ms lt).ms, withTag (ms'.getD fu {}).sh lt'⟩)
    (hwd : wellDatedSys ps cap (sysOf fu prog ms lt) ops = true) (hT : Dated n (sysOf fu prog ms lt)) :
    Reaches ps cap n (sysOf fu prog ms lt) (sysOf fu prog ms' lt') := by
  have e : sysOf fu prog ms' lt' = ops.foldl (stepSys ps cap) (sysOf fu prog ms lt) := by
    rw [hops]; unfold sysOf; rw [hscr]
  exact ⟨ops, e, hwd, by rw [e, hops]; exact hT⟩

theorem postStep_sys (prog : Program) (fu : Nat) (cf : MethodCfg) (hfu : prog[fu]? = some cf)
    (inp : Inputs) (n k : Nat) (c : MethodCfg) (ms : List MethSt) (lt : Nat → Int)
    (pd : PlanDay) (dones : List Done) (hk : prog[k]? = some c) (hlen : ms.length = prog.length)
    (hT : Dated n (sysOf fu prog ms lt)) :
    Reaches (psOf fu prog) (cf.crews * cf.cap) n (sysOf fu prog ms lt)
      (sysOf fu prog (postStep c inp n k ms lt pd dones).ms (postStep c inp n k ms lt pd dones).latestTag) := by
  have hkl : k < ms.length := by rw [hlen]; exact (List.getElem?_eq_some_iff.1 hk).1
  have hful : fu < ms.length := by rw [hlen]; exact (List.getElem?_eq_some_iff.1 hfu).1
  cases hr : c.role with
  | routine =>
    have hp := postStep_routine c inp n k ms lt pd dones hr
    refine sysOf_shared_step (tagOps (dones.map (·.sv.site)) (n : Int))
      (scrList_congr _ _ _ _ fun x => (hp x).1) ?_ (wellDatedSys_tagOps ..) hT
    rw [foldl_tagOps, (hp fu).2.1, (hp fu).2.2, List.foldl_map]
    rfl
  | followUp =>
    obtain ⟨outs, hp⟩ := postStep_followUp c inp n k ms lt pd dones hr hkl
    obtain ⟨_, h2, h3⟩ := hp fu
    have hscr := scrList_congr fu prog ms _ fun x => (hp x).1
    by_cases hkf : k = fu
    · have hc : c = cf := by rw [hkf, hfu] at hk; exact (Option.some.inj hk).symm
      refine sysOf_shared_step [FollowUp.Op.fuDay (n : Int) outs] hscr ?_ ?_ hT
      · rw [h2, h3]
        simp only [hkf, if_true, hc]
        rfl
      · simp only [wellDatedSys, Bool.and_true, List.all_eq_true, decide_eq_true_eq]
        exact hT
    · obtain ⟨l, hl⟩ := followUpDay_latestTag (c.crews * c.cap) (n : Int) outs (withTag (ms.getD k {}).sh lt)
      refine sysOf_shared_step (tagOps l (n : Int)) hscr ?_ (wellDatedSys_tagOps ..) hT
      rw [foldl_tagOps, h2, h3, hl, if_neg hkf]
      rfl
  | screen fu' =>
    have hp := postStep_screen c inp n k ms lt pd dones fu' hr hkl
    by_cases hff : fu' = fu
    · subst hff
      -- the index of this screening method in the system
      obtain ⟨j, hj⟩ := List.mem_iff_getElem?.mp
        (mem_screeners (x := (k, c)).mpr ⟨Nat.zero_le _, by simpa using hk, hr⟩)
      have hpj : (psOf fu' prog)[j]? = some c.fup := by simp [psOf, hj]
      have hmj : (sysOf fu' prog ms lt).ms[j]? = some (ms.getD k {}).scr := by simp [sysOf, scrList, hj]
      have hjl : j < (sysOf fu' prog ms lt).ms.length := (List.getElem?_eq_some_iff.1 hmj).1
      refine ⟨screenOps j n dones ++ [FollowUp.Op.update j (n : Int)], ?_, ?_, ?_⟩
      · rw [List.foldl_append, foldl_screenOps _ _ _ _ _ _ _ hmj]
        simp only [List.foldl_cons, List.foldl_nil, stepSys, hpj, List.getElem?_set_self hjl, List.set_set]
        have hst : FollowUp.dailyUpdate c.fup (n : Int)
            { m := dones.foldl (fun s d => FollowUp.screen (recOfDone n d) s) (ms.getD k {}).scr,
              sh := (sysOf fu' prog ms lt).sh } = screenUpd c n k fu' ms lt dones := rfl
        rw [hst]
        unfold sysOf
        simp only [Sys.mk.injEq]
        constructor
        · unfold scrList
          rw [map_set_of_unique (fun kc : Nat × MethodCfg => kc.1) (fun kc => (ms.getD kc.1 {}).scr)
            (fun kc => ((postStep c inp n k ms lt pd dones).ms.getD kc.1 {}).scr) (screeners fu' 0 prog) j
            (k, c) (screeners_pairwise fu' prog 0) hj fun b _ hb => by
              show ((postStep c inp n k ms lt pd dones).ms.getD b.1 {}).scr = (ms.getD b.1 {}).scr
              rw [(hp b.1).1, if_neg fun h => hb h.symm]]
          simp only
          rw [(hp k).1, if_pos rfl]
        · rw [(hp fu').2.1, (hp fu').2.2]
          simp only [hful, and_self, if_true]
          exact withTag_self _ _ (dailyUpdate_frame c.fup (n : Int) _).2
      · rw [wellDatedSys_append, wellDatedSys_screenOps, Bool.true_and, foldl_screenOps _ _ _ _ _ _ _ hmj]
        simp only [wellDatedSys, List.getElem?_set_self hjl, Bool.and_true, decide_eq_true_eq]
        rw [foldl_screen_today]
        exact hT _ (List.mem_of_getElem? hmj)
      · intro m hm
        obtain ⟨kc, hkc, rfl⟩ := List.mem_map.1 hm
        rw [(hp kc.1).1]
        split
        · exact Int.le_of_eq (dailyUpdate_frame c.fup (n : Int) _).1
        · exact hT _ (List.mem_map.2 ⟨kc, hkc, rfl⟩)
    · -- bound to another follow-up method: this system is not touched
      refine sysOf_shared_step [] ?_ ?_ rfl hT
      · refine List.map_congr_left fun kc hkc => ?_
        obtain ⟨_, h2, h3⟩ := mem_screeners.mp hkc
        rw [(hp kc.1).1, if_neg]
        rintro rfl
        rw [Nat.sub_zero, hk] at h2
        rw [← Option.some.inj h2, hr] at h3
        exact hff (Role.screen.inj h3)
      · rw [(hp fu).2.1, (hp fu).2.2, if_neg fun h => hff h.1]
        rfl

/-! ### the methods loop, the run -/

theorem day_sys (w : World) (prog : Program) (fu : Nat) (cf : MethodCfg) (hfu : prog[fu]? = some cf)
    (inp : Inputs) (n : Nat) (st : St) (hlen : st.ms.length = prog.length)
    (hT : Dated n (sysOf fu prog st.ms st.latestTag)) :
    Reaches (psOf fu prog) (cf.crews * cf.cap) n (sysOf fu prog st.ms st.latestTag)
      (sysOf fu prog (dayAcc w prog inp n st).ms (dayAcc w prog inp n st).latestTag) :=
  (dayAcc_inv w prog inp n st
    (fun a => a.ms.length = prog.length ∧ Reaches (psOf fu prog) (cf.crews * cf.cap) n
      (sysOf fu prog st.ms st.latestTag) (sysOf fu prog a.ms a.latestTag))
    ⟨hlen, .refl hT⟩ fun m c a hm ⟨hl, hR⟩ =>
      ⟨(postStep_length ..).trans hl,
        hR.trans (postStep_sys prog fu cf hfu inp n m c a.ms a.latestTag _ _ hm hl hR.dated)⟩).2

theorem sysOf_init (w : World) (prog : Program) (inp : Inputs) (fu : Nat) :
    sysOf fu prog (simState w prog inp 0).ms (simState w prog inp 0).latestTag = initSys (psOf fu prog) := by
  have hget : ∀ x, (List.map (fun _ => ({} : MethSt)) prog).getD x {} = {} := by
    intro x
    simp only [List.getD_eq_getElem?_getD, List.getElem?_map]
    cases prog[x]? <;> rfl
  unfold sysOf scrList initSys psOf
  simp only [simState, init, hget, List.map_map]
  rfl

theorem dated_mono {n n' : Nat} (h : n ≤ n') (sy : Sys) (hd : Dated n sy) : Dated n' sy := by
  intro m hm
  have := hd m hm
  have : (n : Int) ≤ (n' : Int) := by exact_mod_cast h
  omega

/-- **C09 lifted to the integrated simulation, any number of screening methods.**  For the follow-up
method at program position `fu`, the candidate pools / detection records of the screening methods bound
to it (in program order) together with its follow-up schedule and the sites' latest tagging survey
dates are, after `N` simulated days of `simRun`, the state of the component model `FollowUp.runSys`
after a history of screenings, daily updates, follow-up days and tagging surveys whose dates never go
backwards.  Every theorem of C09 about `runSys` (`C09_flags_any_methods`,
`C09_done_le_flags_any_methods`, and for one screening method `C09_partial`) therefore holds of the
integrated simulation. -/
theorem sim_followup_runSys (w : World) (prog : Program) (inp : Inputs) (fu : Nat) (cf : MethodCfg)
    (hfu : prog[fu]? = some cf) (_ : cf.role = .followUp) (N : Nat) :
    ∃ ops : List FollowUp.Op,
      sysOf fu prog (simState w prog inp N).ms (simState w prog inp N).latestTag =
        runSys (psOf fu prog) (cf.crews * cf.cap) ops ∧
      wellDatedSys (psOf fu prog) (cf.crews * cf.cap) (initSys (psOf fu prog)) ops = true ∧
      Dated N (sysOf fu prog (simState w prog inp N).ms (simState w prog inp N).latestTag) := by
  suffices h : Reaches (psOf fu prog) (cf.crews * cf.cap) N (initSys (psOf fu prog))
      (sysOf fu prog (simState w prog inp N).ms (simState w prog inp N).latestTag) from h
  induction N with
  | zero =>
    rw [sysOf_init]
    refine .refl fun m hm => ?_
    obtain ⟨_, _, rfl⟩ := List.mem_map.1 hm
    exact Int.le_refl _
  | succ n ih =>
    obtain ⟨ops, e, hw, hd⟩ := day_sys w prog fu cf hfu inp n _ (ms_length w prog inp n) ih.dated
    exact ih.trans ⟨ops, e, hw, dated_mono (Nat.le_succ n) _ hd⟩

/-! ### one screening method: the system is `FollowUp.run1` -/

/-- **C09 lifted to the integrated simulation, one screening method.**  If exactly one screening method
(parameters `p`) is bound to the follow-up method at position `fu`, its screening state and the
follow-up schedule are, after `N` simulated days, the state `FollowUp.run1 p cap ops` of the
single-method machine after a well-dated history `ops`: every theorem of C09 about `run1` applies. -/
theorem sim_followup_run1 (w : World) (prog : Program) (inp : Inputs) (fu : Nat) (cf : MethodCfg)
    (hfu : prog[fu]? = some cf) (hfr : cf.role = .followUp) (p : FollowUp.Params) (hp : psOf fu prog = [p]) (N : Nat) :
    ∃ ops : List FollowUp.Op1, WellDated p (cf.crews * cf.cap) {} ops ∧
      (sysOf fu prog (simState w prog inp N).ms (simState w prog inp N).latestTag).ms =
        [(run1 p (cf.crews * cf.cap) ops).m] ∧
      (sysOf fu prog (simState w prog inp N).ms (simState w prog inp N).latestTag).sh =
        (run1 p (cf.crews * cf.cap) ops).sh := by
  obtain ⟨ops, h1, hw, _⟩ := sim_followup_runSys w prog inp fu cf hfu hfr N
  rw [hp] at h1 hw
  obtain ⟨e, hwd⟩ := runSys_single p (cf.crews * cf.cap) ops
  rw [e] at h1
  exact ⟨ops.filterMap lower, hwd hw, by rw [h1], by rw [h1]⟩

/-! ### corollaries: C09's theorems in the integrated simulation -/

/-- the follow-up system of position `fu` after `N` days of the run -/
def fuSys (w : World) (prog : Program) (inp : Inputs) (fu N : Nat) : Sys :=
  sysOf fu prog (simState w prog inp N).ms (simState w prog inp N).latestTag

/-- **any number of screening methods** (what F13 does not break): every flag event of every screening
method of `simRun` stems from released detections of that site by that method, its rate is the
redundancy-filtered rate of those detections and reached the (instant) threshold, never before the
reporting delay (+ delay on the pool route); a flag on the instant route never rests on a screening
older than the site's latest tagging survey; and completed + withdrawn + outstanding follow-up requests
of a site never exceed the number of times it was flagged. -/
theorem sim_flags_any_methods (w : World) (prog : Program) (inp : Inputs) (fu : Nat) (cf : MethodCfg)
    (hfu : prog[fu]? = some cf) (hfr : cf.role = .followUp) (N : Nat) :
    (∀ (i : Nat) (p : FollowUp.Params) (m : MState), (psOf fu prog)[i]? = some p →
        (fuSys w prog inp fu N).ms[i]? = some m →
        ∀ f ∈ m.evs, GoodFlag p m.released m.today f ∧ (f.route = .instant → f.tagAtFlag ≤ f.recDate)) ∧
    (∀ s, (fuSys w prog inp fu N).sh.done s + (fuSys w prog inp fu N).sh.dropped s
        + outstanding (fuSys w prog inp fu N).sh.queue s ≤ (fuSys w prog inp fu N).sh.flags s) := by
  obtain ⟨ops, h1, hw, _⟩ := sim_followup_runSys w prog inp fu cf hfu hfr N
  unfold fuSys
  rw [h1]
  exact ⟨C09_flags_any_methods _ _ ops hw, fun s => (C09_done_le_flags_any_methods _ _ ops s).1⟩

/-- **one screening method**: at most one outstanding follow-up request per site (in the queue exactly
once iff its flag is set, in the pool exactly once iff its pool flag is set, never both), each flag leads
to at most one follow-up survey; every queued request belongs to a flagged site and stems from released
detections of that site; every flag event stems from released detections reaching the threshold; no flag
and no follow-up visit before the reporting delay (+ the follow-up delay on the pool route). -/
theorem sim_c09_single (w : World) (prog : Program) (inp : Inputs) (fu : Nat) (cf : MethodCfg)
    (hfu : prog[fu]? = some cf) (hfr : cf.role = .followUp) (p : FollowUp.Params) (hp : psOf fu prog = [p]) (N : Nat) :
    ∃ m : MState, (fuSys w prog inp fu N).ms = [m] ∧
      -- one_outstanding
      (∀ s, outstanding (fuSys w prog inp fu N).sh.queue s = (if (fuSys w prog inp fu N).sh.inQueue s then 1 else 0) ∧
            (m.inPool s = true → (fuSys w prog inp fu N).sh.inQueue s = false) ∧
            (fuSys w prog inp fu N).sh.done s ≤ (fuSys w prog inp fu N).sh.flags s) ∧
      (fuSys w prog inp fu N).sh.err = false ∧
      -- queue_entries_flagged
      (∀ e ∈ (fuSys w prog inp fu N).sh.queue,
          (fuSys w prog inp fu N).sh.inQueue e.plan.site = true ∧ e.plan.rates ≠ [] ∧
          ∀ r ∈ e.plan.rates, ∃ rc ∈ m.released, rc.site = e.plan.site ∧ rc.rate = r) ∧
      -- queued_implies_flagged (provenance and thresholds of every flag event)
      (∀ f ∈ m.evs, f.rates ≠ [] ∧
          (∀ r ∈ f.rates, ∃ rc ∈ m.released, rc.site = f.site ∧ rc.rate = r ∧ rc.date + p.rd ≤ f.day) ∧
          (p.stationary = false → f.rate = filt p.filter f.rates) ∧
          (f.route = .instant → ∃ t, p.inst = some t ∧ t ≤ f.rate) ∧
          (f.route = .pool → p.stationary = false → p.thr ≤ filt p.filter f.rates)) ∧
      -- not_before_reporting_delay
      (∀ f ∈ m.evs, f.recDate + p.rd ≤ f.day ∧ (f.route = .instant → f.day = f.recDate + p.rd) ∧
          (f.route = .pool → f.first + p.delay ≤ f.day)) ∧
      (∀ v ∈ (fuSys w prog inp fu N).sh.visits, v.recDate + p.rd ≤ v.day) := by
  obtain ⟨ops, hw, hm, hsh⟩ := sim_followup_run1 w prog inp fu cf hfu hfr p hp N
  unfold fuSys
  refine ⟨(run1 p (cf.crews * cf.cap) ops).m, hm, ?_⟩
  rw [hsh]
  have h1 := one_outstanding p (cf.crews * cf.cap) ops
  have h2 := queue_entries_flagged p (cf.crews * cf.cap) ops hw
  have h3 := queued_implies_flagged p (cf.crews * cf.cap) ops hw
  have h4 := not_before_reporting_delay p (cf.crews * cf.cap) ops hw
  refine ⟨fun s => ⟨(h1 s).1, (h1 s).2.2.1, (h1 s).2.2.2.2.1⟩, (h1 0).2.2.2.2.2, ?_, ?_, h4.1, h4.2⟩
  · intro e he
    obtain ⟨a, _, b, c⟩ := h2 e he
    exact ⟨a, b, c⟩
  · intro f hf
    obtain ⟨a, b, c, _, d, e, _⟩ := h3 f hf
    exact ⟨a, b, c, d, e⟩

/-- **proportion (C09) in the integrated simulation, one screening method**: whatever day `d` the next
daily update of the screening method is made on, it flags at most `min k |pool|` sites through the pool,
`k` = the number of candidates the proportion keeps, and the kept candidates are the largest ones -/
theorem sim_proportion (w : World) (prog : Program) (inp : Inputs) (fu : Nat) (cf : MethodCfg)
    (hfu : prog[fu]? = some cf) (hfr : cf.role = .followUp) (p : FollowUp.Params) (hp : psOf fu prog = [p]) (N : Nat)
    (d : Int) :
    ∃ st : FollowUp.St, (fuSys w prog inp fu N).ms = [st.m] ∧ (fuSys w prog inp fu N).sh = st.sh ∧
      let mid := midState p d st
      let k := keepCount p mid.m.pool.length mid.m.count
      (∀ x ∈ mid.m.pool.take k, ∀ y ∈ mid.m.pool.drop k, y.rate ≤ x.rate) ∧
      (dailyUpdate p d st).m.nflags ≤ min k mid.m.pool.length := by
  obtain ⟨ops, _, hm, hsh⟩ := sim_followup_run1 w prog inp fu cf hfu hfr p hp N
  refine ⟨run1 p (cf.crews * cf.cap) ops, hm, hsh, ?_⟩
  have h := proportion_history p (cf.crews * cf.cap) ops d
  exact ⟨h.1, h.2.2⟩

/-! ### non-vacuity: a screening method, its follow-up method, a flag and a follow-up survey -/

def exScreen : MethodCfg :=
  { role := .screen 1, crews := 1, cap := 5, workdayH := 8, cost := { perDay := 0, perSite := some 10, upfront := 0 },
    mdl := 512, trd := 0, sites := [1], S := fun _ => 20, siteCost := fun _ => 0, P := fun _ => exPlanner,
    fup := { rd := 0, delay := 0, prop := 1, thr := 0 } }

def exFollow : MethodCfg :=
  { role := .followUp, crews := 1, cap := 3, workdayH := 8, cost := { perDay := 0, perSite := some 100, upfront := 0 },
    mdl := 512, trd := 1, sites := [1], S := fun _ => 60, siteCost := fun _ => 0 }

/-- day 0: the screening survey of site 1 measures 1024 (in hundredths: 102400), the record is released
the same day, the site is flagged and queued, the follow-up method surveys it the same day and tags the
leak, which is repaired by company 1; the system of position 1 has one screening method -/
example :
    (psOf 1 [exScreen, exFollow]).length = 1 ∧
    (simState exWorld [exScreen, exFollow] quietInputs 3).ss.map (fun s => (s.status, s.by_)) =
      [(.repaired, .company 1), (.active, .none)] ∧
    ((fuSys exWorld [exScreen, exFollow] quietInputs 1 1).ms.map (fun m => m.evs.map (fun f => (f.site, f.rate, f.day))))
      = [[(1, 102400, 0)]] ∧
    (fuSys exWorld [exScreen, exFollow] quietInputs 1 1).sh.done 1 = 1 := by
  decide +kernel

end LdarModel.Sim
